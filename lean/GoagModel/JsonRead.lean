import Lean.Data.Json
/-
  Field access on `Lean.Json` documents, for the readers that turn the OpenAPI JSON and the harness's
  descriptions into model values (`JsonModel`, `Resp`).
-/
namespace Goag.JsonM
open Lean

def jfield? (j : Json) (k : String) : Option Json :=
  match j.getObjVal? k with | .ok v => some v | .error _ => none

def jstr? (j : Json) (k : String) : Option String :=
  match jfield? j k with | some (.str s) => some s | _ => none

def jbool (j : Json) (k : String) : Bool :=
  match jfield? j k with | some (.bool b) => b | _ => false

def jarr (j : Json) (k : String) : List Json :=
  match jfield? j k with | some (.arr a) => a.toList | _ => []

def jobj (j : Json) : List (String × Json) :=
  match j with | .obj kvs => kvs.toList | _ => []

end Goag.JsonM
