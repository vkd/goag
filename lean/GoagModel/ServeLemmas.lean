import GoagModel.Serve
/-
  What the stages inside the middleware stack emit: the authenticator wrapper, the operation
  handler, the two together. The trace theorems of C11, C13, C14 and C16 are instances.
-/
namespace Goag.Serve

/-- one turn of `authOr`'s loop, without the events -/
def accepted (cfg : Cfg) (req : Req) (r : AuthRef) : Option (String × String) :=
  match cfg.auth.find? (·.1 == r.scheme), credential r req with
  | some (_, accept), some tok => if accept.contains tok then some (r.scheme, tok) else none
  | _, _ => none

theorem accepted_fst {cfg : Cfg} {req : Req} {r : AuthRef} {p : String × String}
    (h : accepted cfg req r = some p) : p.1 = r.scheme := by
  unfold accepted at h
  split at h
  · split at h
    · cases h
      rfl
    · cases h
  · cases h

theorem authOr_result (refs : List AuthRef) (cfg : Cfg) (req : Req) :
    (authOr refs cfg req).2 = refs.findSome? (accepted cfg req) := by
  induction refs with
  | nil => rfl
  | cons r rs ih =>
    rw [List.findSome?_cons, ← ih, authOr, accepted]
    generalize cfg.auth.find? (·.1 == r.scheme) = inst
    rcases inst with _ | ⟨_, accept⟩
    · rfl
    · cases credential r req with
      | none => rfl
      | some tok =>
        dsimp only
        cases accept.contains tok <;> rfl

theorem secured_eq (leaf : LeafTable) (api : ApiM) (cfg : Cfg) (o : OpM) (r : RCtx) :
    secured leaf api cfg o r =
      if o.auth = [] then opHandler leaf api cfg o r else
      (authOr o.auth cfg r.req).1 ++
        match (authOr o.auth cfg r.req).2 with
        | some (s, t) => opHandler leaf api cfg o { r with tag := some (s ++ ":" ++ t) }
        | none => [Ev.final 401 "" "len=0"] := by
  unfold secured
  cases o.auth with
  | nil => rfl
  | cons a as => rcases authOr (a :: as) cfg r.req with ⟨evs, _ | ⟨s, t⟩⟩ <;> rfl

/-! "No event of the trace satisfies `p`" and "`n` events satisfy `p`" are both read off
    `trace.filter p`, so the stage lemmas below speak of that. -/

theorem forall_false_of_filter {α : Type} {p : α → Bool} {l : List α} (h : l.filter p = []) : ∀ a ∈ l, p a = false :=
  fun a ha => Bool.eq_false_iff.mpr (List.filter_eq_nil_iff.mp h a ha)

theorem filter_map_eq_nil {α β : Type} {p : β → Bool} {f : α → β} (hf : ∀ a, p (f a) = false) (l : List α) :
    (l.map f).filter p = [] := by
  rw [List.filter_eq_nil_iff]
  intro b hb
  obtain ⟨a, _, rfl⟩ := List.mem_map.mp hb
  exact Bool.eq_false_iff.mp (hf a)

theorem filter_authOr {p : Ev → Bool} (ha : ∀ s t ok, p (.auth s t ok) = false) (refs : List AuthRef) (cfg : Cfg)
    (req : Req) : (authOr refs cfg req).1.filter p = [] := by
  induction refs with
  | nil => rfl
  | cons r rs ih =>
    unfold authOr
    split
    · exact ih
    · split
      · exact ih
      · split
        · exact List.filter_cons_of_neg (Bool.eq_false_iff.mp (ha ..))
        · exact (List.filter_cons_of_neg (Bool.eq_false_iff.mp (ha ..))).trans ih

theorem filter_opHandler {p : Ev → Bool} (hh : ∀ m t, p (.handler m t) = false) (hc : ∀ t, p (.ctx t) = false)
    (hd : ∀ s, p (.parsed s) = false) (leaf : LeafTable) (api : ApiM) (cfg : Cfg) (o : OpM) (r : RCtx) :
    (opHandler leaf api cfg o r).filter p = [Ev.final 299 "" "len=0"].filter p := by
  unfold opHandler
  cases r.tag <;> cases cfg.parse <;> simp [hh, hc, hd]

theorem filter_secured {p : Ev → Bool} (ha : ∀ s t ok, p (.auth s t ok) = false) (hh : ∀ m t, p (.handler m t) = false)
    (hc : ∀ t, p (.ctx t) = false) (hd : ∀ s, p (.parsed s) = false)
    (leaf : LeafTable) (api : ApiM) (cfg : Cfg) (o : OpM) (r : RCtx) :
    ∃ st, (secured leaf api cfg o r).filter p = [Ev.final st "" "len=0"].filter p := by
  rw [secured_eq]
  split
  · exact ⟨299, filter_opHandler hh hc hd ..⟩
  · rw [List.filter_append, filter_authOr ha, List.nil_append]
    split
    · exact ⟨299, filter_opHandler hh hc hd ..⟩
    · exact ⟨401, rfl⟩

end Goag.Serve
