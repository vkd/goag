import GoagModel.RespHdr
import GoagModel.Props.C09
/-
  C10 (first sentence, header values) — "the generated client returns a value … with equal …
  header values".  For every declared header (integer of the three widths, boolean, string; scalar
  or array; required or optional) and every value of its generated Go type inside the domain of
  §11 (integers in range of the declared width, a required or set array non-empty — HTTP has no
  field line for an empty list), what the client rebuilds from the field lines the server wrote
  is that value: unset stays unset, a present-and-empty string stays present, no array element is
  lost, reordered or merged.
-/
namespace Goag.RespHdr
open Goag.Prim

def LeafOk : HType → Leaf → Prop
  | .int bits, .int v => InRange bits v
  | .bool, .bool _ => True
  | .str, .str _ => True
  | _, _ => False

/-- a value of the Go type generated for the declaration, inside the domain -/
def ValOk (d : HDecl) : HVal → Prop
  | .unset => d.required = false
  | .one l => d.array = false ∧ LeafOk d.ty l
  | .many ls => d.array = true ∧ ls ≠ [] ∧ ∀ l ∈ ls, LeafOk d.ty l

theorem parseLeaf_fmtLeaf (t : HType) (l : Leaf) (h : LeafOk t l) : parseLeaf t (fmtLeaf l) = some l := by
  revert h
  fun_cases LeafOk t l <;> intro h
  · simp [parseLeaf, fmtLeaf, parseInt_formatInt _ _ h.1 h.2]
  · simp [parseLeaf, fmtLeaf, parseBool_formatBool]
  · simp [parseLeaf, fmtLeaf]
  · exact h.elim

theorem parseLeaves_fmtLeaves (t : HType) (ls : List Leaf) (h : ∀ l ∈ ls, LeafOk t l) :
    (ls.map fmtLeaf).mapM (parseLeaf t) = some ls := by
  simpa using mapM_map_eq_some (h := id) fun l hl => parseLeaf_fmtLeaf t l (h l hl)

/-- **C10, header values.** -/
theorem read_write_header (d : HDecl) (v : HVal) (h : ValOk d v) :
    readLines d (writeLines v) = .ok v := by
  cases v with
  | unset =>
    simp only [ValOk] at h
    simp [writeLines, readLines, h]
  | one l =>
    obtain ⟨ha, hl⟩ := h
    simp [writeLines, readLines, ha, parseLeaf_fmtLeaf d.ty l hl]
  | many ls =>
    obtain ⟨ha, hne, hl⟩ := h
    cases ls with
    | nil => exact absurd rfl hne
    | cons l r =>
      have := parseLeaves_fmtLeaves d.ty (l :: r) hl
      simp only [List.map_cons] at this
      simp [writeLines, readLines, ha, this]

theorem readLines_unset_iff (d : HDecl) (hs : List Str) (w : HVal) (h : readLines d hs = .ok w) :
    w = .unset ↔ hs = [] := by
  unfold readLines at h
  split at h
  · -- no line: the only success is `unset`
    split at h
    · cases h
    · cases h
      exact iff_of_true rfl rfl
  · -- at least one line: every branch ends in `many`, `one` or an error
    refine iff_of_false ?_ (List.cons_ne_nil _ _)
    rintro rfl
    repeat' split at h
    all_goals cases h

/-- the client never reports a header the server did not send as present, and never drops one it
    sent: the result is `unset` exactly when no field line was written -/
theorem unset_iff_no_lines (d : HDecl) (v w : HVal) (h : readLines d (writeLines v) = .ok w) :
    w = .unset ↔ writeLines v = [] :=
  readLines_unset_iff d _ w h

theorem valuesOf_append (key : String) (a b : List (String × Str)) :
    valuesOf key (a ++ b) = valuesOf key a ++ valuesOf key b := by
  simp [valuesOf]

theorem valuesOf_map (key k : String) (ls : List Str) :
    valuesOf key (ls.map (fun l => (k, l))) = if k = key then ls else [] := by
  by_cases h : k = key <;> simp [valuesOf, List.filter_map, Function.comp_def, h]

theorem valuesOf_writeAll_absent (key : String) (hs : List (String × HVal)) (h : ∀ kv ∈ hs, kv.1 ≠ key) :
    valuesOf key (writeAll hs) = [] := by
  induction hs with
  | nil => rfl
  | cons kv rest ih =>
    rw [List.forall_mem_cons] at h
    rw [writeAll, valuesOf_append, valuesOf_map, if_neg h.1, ih h.2]
    rfl

theorem valuesOf_writeAll_mem {hs : List (String × HVal)} (hdist : (hs.map (·.1)).Pairwise (· ≠ ·))
    {k : String} {v : HVal} (hm : (k, v) ∈ hs) : valuesOf k (writeAll hs) = writeLines v := by
  induction hs with
  | nil => cases hm
  | cons x rest ih =>
    obtain ⟨k', v'⟩ := x
    rw [List.map_cons, List.pairwise_cons] at hdist
    rw [writeAll, valuesOf_append, valuesOf_map]
    rcases List.mem_cons.mp hm with heq | hin
    · cases heq
      rw [if_pos rfl, valuesOf_writeAll_absent k rest fun kv hkv heq =>
        hdist.1 kv.1 (List.mem_map_of_mem hkv) heq.symm, List.append_nil]
    · rw [if_neg (hdist.1 k (List.mem_map_of_mem (f := (·.1)) hin)), ih hdist.2 hin]
      rfl

/-- **C10, the whole header block.** When the declared headers have pairwise distinct canonical keys,
    the client reads under each header's key exactly the field lines written for THAT header — no line
    of another header leaks in, none is lost — and so rebuilds every header value of the response. -/
theorem read_write_all (hs : List (String × HDecl × HVal))
    (hdist : (hs.map (·.1)).Pairwise (· ≠ ·)) (hok : ∀ h ∈ hs, ValOk h.2.1 h.2.2) :
    ∀ h ∈ hs, readLines h.2.1 (valuesOf h.1 (writeAll (hs.map (fun x => (x.1, x.2.2))))) = .ok h.2.2 := by
  intro h hh
  rw [valuesOf_writeAll_mem (by rw [List.map_map]; exact hdist)
    (List.mem_map_of_mem (f := fun x => (x.1, x.2.2)) hh)]
  exact read_write_header _ _ (hok h hh)

/-- a required header the server did not write is an error at the client, not a zero value -/
theorem required_absent_is_error (d : HDecl) (h : d.required = true) : readLines d [] = .error .required := by
  simp [readLines, h]

/-- the boundary value "present and empty" (C10-m10): an optional string header set to "" comes back set -/
example : readLines { ty := .str, array := false, required := false } (writeLines (.one (.str []))) = .ok (.one (.str [])) := rfl
example : ValOk { ty := .int 32, array := true, required := true } (.many [.int (-5), .int 7]) := by
  refine ⟨rfl, by simp, ?_⟩
  intro l hl
  simp only [List.mem_cons, List.mem_nil_iff, or_false] at hl
  rcases hl with rfl | rfl <;> exact ⟨by decide, by decide⟩

end Goag.RespHdr
