import GoagModel.C12Known
/-
  C12 — generation is deterministic.

  A Go `range` over a map visits the entries in an order chosen by the runtime on every
  execution: it is modelled as an arbitrary permutation of the entry list.  The lemmas below
  say why each reviewed *shape* of site (see C12Known) yields the same result for every
  permutation; the regenerated obligation `allClassified sites = true` (checked against the
  table extracted from the current source on every run) says that every site of the current
  tree has one of these shapes.
-/
namespace Goag.C12

/-- **collectThenSort**: two iteration orders of the same map (permutations of one another)
    give the same list once sorted, for any total, transitive, antisymmetric order -/
theorem sorted_perm_eq {α : Type} (le : α → α → Bool)
    (total : ∀ a b, le a b = true ∨ le b a = true)
    (trans : ∀ a b c, le a b = true → le b c = true → le a c = true)
    (antisymm : ∀ a b, le a b = true → le b a = true → a = b)
    (l₁ l₂ : List α) (h : l₁.Perm l₂) : l₁.mergeSort le = l₂.mergeSort le := by
  have sorted (l : List α) : (l.mergeSort le).Pairwise (le · ·) :=
    List.pairwise_mergeSort trans (fun a b => by rcases total a b with h | h <;> simp [h]) l
  exact ((List.mergeSort_perm l₁ le).trans (h.trans (List.mergeSort_perm l₂ le).symm)).eq_of_pairwise
    (fun a b _ _ => antisymm a b) (sorted l₁) (sorted l₂)

/-- association-list model of a Go map built by `m'[k] = v` statements -/
def insertAll {κ ν : Type} [DecidableEq κ] (l : List (κ × ν)) (m : κ → Option ν) : κ → Option ν :=
  l.foldl (fun acc kv => fun k => if k = kv.1 then some kv.2 else acc k) m

theorem insertAll_cons {κ ν : Type} [DecidableEq κ] (kv : κ × ν) (l : List (κ × ν))
    (m : κ → Option ν) :
    insertAll (kv :: l) m = insertAll l (fun k => if k = kv.1 then some kv.2 else m k) := rfl

theorem insertAll_lookup {κ ν : Type} [DecidableEq κ] (l : List (κ × ν)) (hd : (l.map Prod.fst).Nodup)
    (m : κ → Option ν) (k : κ) :
    insertAll l m k = match l.find? (fun kv => kv.1 = k) with | some kv => some kv.2 | none => m k := by
  induction l generalizing m with
  | nil => rfl
  | cons kv tl ih =>
    have ⟨hkv, htl⟩ := List.nodup_cons.mp hd
    rw [insertAll_cons, ih htl]
    by_cases hk : kv.1 = k
    · -- no later entry has this key, so the write of `kv` is the one seen
      subst hk
      have hnone : tl.find? (fun kv' => kv'.1 = kv.1) = none :=
        List.find?_eq_none.mpr fun x hx hx1 => hkv (of_decide_eq_true hx1 ▸ List.mem_map_of_mem hx)
      simp [hnone]
    · simp [hk, Ne.symm hk]

/-- **insertDistinct**: storing the entries of a map (distinct keys) into another map gives
    the same map whatever the iteration order -/
theorem insertDistinct_perm {κ ν : Type} [DecidableEq κ] (l₁ l₂ : List (κ × ν)) (h : l₁.Perm l₂)
    (hd : (l₁.map Prod.fst).Nodup) (m : κ → Option ν) (k : κ) :
    insertAll l₁ m k = insertAll l₂ m k := by
  -- two writes under different keys commute, so the fold does not depend on the order
  have swap : l₁.Pairwise fun x y => ∀ z : κ → Option ν, insertAll [x, y] z = insertAll [y, x] z :=
    (List.pairwise_map.mp hd).imp fun {x y} hxy z => funext fun k => by
      show (if k = y.1 then some y.2 else if k = x.1 then some x.2 else z k) =
        if k = x.1 then some x.2 else if k = y.1 then some y.2 else z k
      by_cases hx : k = x.1
      · rw [if_pos hx, if_neg (fun hy => hxy (hx.symm.trans hy)), if_pos hx]
      · rw [if_neg hx, if_neg hx]
  -- `foldl_eq'` asks for this of any two entries, in either order: `swap` has the first before the second, symmetry the rest
  exact congrFun (h.foldl_eq' (swap.forall_of_forall_of_flip (fun _ _ _ => rfl)
    (swap.imp fun h z => (h z).symm)) m) k

/-- first-wins iteration (the pre-repair `NewSecurityRequirements`) depends on the order: a witness
    with two entries; the reason the three sites were repaired (3f5feec) -/
theorem firstWins_sensitive : ∃ (l₁ l₂ : List Nat), l₁.Perm l₂ ∧ l₁.head? ≠ l₂.head? :=
  ⟨[1, 2], [2, 1], .swap .., by decide⟩

/-- the table of the pinned (repaired) tree is classified — the same obligation is re-checked
    against the table regenerated from the current source on every run -/
theorem pinned_sites_classified : allClassified [
    ⟨"goag/generator", "ExecuteTemplate", "env", "os.Getenv(\"TEMPLATE_DEBUG\")", "4d33dca4ce56"⟩,
    ⟨"goag/specification", "GetSecurity", "range-unreferenced", "sr", "149c78b2df6e"⟩,
    ⟨"goag/specification", "NewComponents", "range", "spec.Parameters", "1e65b1ef2112"⟩,
    ⟨"goag/specification", "NewMapPrefix", "mapsKeys-sorted", "maps.Keys(m)", "f9bd515d4599"⟩,
    ⟨"goag/specification", "NewSchema", "range", "required", "aa006bc2f221"⟩,
    ⟨"goag/specification", "NewSchema", "range", "schema.ExtensionProps.Extensions", "9690d7b88366"⟩,
    ⟨"goag/specification", "sortedKeys", "range-collect-sorted", "m", "56a2a16952c0"⟩,
    ⟨"goag", "Generator.Generate", "range-collect-sorted", "s.Variables", "20d05a1c78c5"⟩] = true := by decide +kernel

/-- a new, unreviewed `range` over a map is NOT accepted (the obligation fails closed) -/
example : allClassified [⟨"goag/generator", "NewRouter", "range", "headersMap", "000000000000"⟩] = false := by decide +kernel

end Goag.C12
