import GoagModel.JsonLemmas
/-
  C18 — the part of "a $ref behaves like the component it points to" that the JSON codec model
  can carry: inside an allOf, a member given by reference becomes an EMBEDDED struct in the
  generated Go type, while its inline copy is FLATTENED into the composite's own fields. The two
  generated types differ; what goes over the wire must not. For every member schema (an object
  without additionalProperties), every list of further members and every value:

  * `allOf_ref_encodes_like_inline`: the embedded form `obj fs :: vs` and the flattened form
    `fs ++ vs` encode to the same JSON members;
  * `allOf_ref_decodes_like_inline`: every document decodes under both forms or under neither,
    with the same error, the same left-over keys, and values that correspond by flattening.
  (An embedded member WITH additionalProperties is the recorded finding KF-C06-embeddedAddl.)
  (`toJMembers_join` / `decodeMembers_join` in `JsonLemmas` state the same correspondence once for both
  kinds of member.)
  The rest of C18 relates two outputs of the whole generator and is validated by the reference /
  inline corpus, not proved.
-/
namespace Goag.JsonM

theorem allOf_ref_encodes_like_inline (fields : List (String × Bool × Schema)) (nl : Bool)
    (ms : List (Bool × Schema)) (fs vs : List Val) (hlen : fs.length = fields.length) :
    toJMembers ((true, .obj fields none nl) :: ms) (Val.obj fs none :: vs) =
      toJMembers ((false, .obj fields none nl) :: ms) (fs ++ vs) := by
  rw [toJMembers, toJMembers, toJ, toJFields_append fields fs vs hlen]
  cases hF : toJFields fields fs with
  | error e => rfl
  | ok p =>
    obtain ⟨mm, rest⟩ := p
    obtain ⟨fs', rfl, hl, -⟩ := toJFields_ok_split hF
    have : rest = [] := List.eq_nil_of_length_eq_zero (by rw [List.length_append] at hlen; omega)
    subst this
    cases hM : toJMembers ms vs <;> simp [hM]

theorem allOf_ref_decodes_like_inline (tbl : LeafDec) (fields : List (String × Bool × Schema)) (nl : Bool)
    (ms : List (Bool × Schema)) (doc : List (String × J)) :
    (decodeMembers tbl ((false, .obj fields none nl) :: ms) doc) =
      (match decodeFields tbl fields doc with
       | .error e => .error e
       | .ok (vs, rest) => match decodeMembers tbl ms rest with
         | .error e => .error e
         | .ok (more, left) => .ok (vs ++ more, left)) ∧
    (decodeMembers tbl ((true, .obj fields none nl) :: ms) doc) =
      (match decodeFields tbl fields doc with
       | .error e => .error e
       | .ok (vs, rest) => match decodeMembers tbl ms rest with
         | .error e => .error e
         | .ok (more, left) => .ok (Val.obj vs none :: more, left)) := by
  rw [decodeMembers, decodeMembers]
  cases decodeFields tbl fields doc with
  | error e => exact ⟨rfl, rfl⟩
  | ok p => exact ⟨rfl, rfl⟩

end Goag.JsonM
