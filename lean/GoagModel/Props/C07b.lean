import GoagModel.JsonLemmas
/-
  C07 — "the encoded JSON conforms to the schema it was generated from", through the whole schema
  tree, for the fragment `wf` of `JsonFragment`: whatever the encoder writes for such a value conforms
  to the schema, as judged by `conforms`, the reference that is read from the spec alone: every
  required property present, unset optional ones omitted, `null` only where nullable, member names
  exactly the declared ones (plus the map's keys), every nested value of the declared shape.

  For allOf this is the "members are merged into one object" clause: one JSON object whose member
  names are exactly the members' declared names, each member's required properties present.

  `toJ_conforms_oneOf` lifts this to a oneOf whose chosen alternative lies in the fragment.

  Outside the fragment (allOf members with additionalProperties — by reference: KF-C06-embeddedAddl —, untyped
  values, nesting below a oneOf) conformance is judged per generated type by the same reference.
-/
namespace Goag.JsonM

def Conforming (s : Schema) : Prop := ∀ v j, wf s v = true → toJ s v = .ok j → conforms s j = true

theorem list_conforms (s : Schema) (hS : Conforming s) :
    ∀ (vs : List Val) (js : List J), wfList s vs = true → toJList s vs = .ok js → conformsAll s js = true := by
  intro vs
  induction vs with
  | nil => intro js _ hj; rw [toJList] at hj; cases hj; rw [conformsAll]
  | cons v vt ih =>
    intro js h hj
    rw [wfList, Bool.and_eq_true] at h
    obtain ⟨j, jt, hv, ht, rfl⟩ := toJList_cons_eq_ok.mp hj
    rw [conformsAll, hS v j h.1 hv, ih jt h.2 ht]; rfl

theorem addl_conforms (s : Schema) (hS : Conforming s) :
    ∀ (xs : List (String × Val)) (xm : List (String × J)), wfAddl s xs = true → toJAddl s xs = .ok xm →
      conformsAll s (xm.map (·.2)) = true ∧ xm.map (·.1) = xs.map (·.1) := by
  intro xs
  induction xs with
  | nil => intro xm _ hj; rw [toJAddl] at hj; cases hj; exact ⟨by rw [List.map_nil, conformsAll], rfl⟩
  | cons x xt ih =>
    obtain ⟨k, v⟩ := x
    intro xm h hj
    rw [wfAddl, Bool.and_eq_true] at h
    obtain ⟨j, mt, hv, ht, rfl⟩ := toJAddl_cons_eq_ok.mp hj
    obtain ⟨hc, hk⟩ := ih mt h.2 ht
    exact ⟨by rw [List.map_cons, conformsAll, hS v j h.1 hv, hc]; rfl, congrArg (k :: ·) hk⟩

theorem fields_conforms {fields : List (String × Bool × Schema)} (hnd : (fields.map (·.1)).Nodup)
    (hS : ∀ f ∈ fields, Conforming f.2.2)
    {vs rest : List Val} {ms doc : List (String × J)} (hw : wfFields fields vs = true) (h : toJFields fields vs = .ok (ms, rest))
    (hag : ∀ k ∈ fields.map (·.1), lookupFirst doc k = lookupFirst ms k) :
    fieldsConform fields doc = true := by
  induction fields generalizing vs ms with
  | nil => rw [fieldsConform]
  | cons f fs ih =>
    obtain ⟨name, req, s⟩ := f
    rw [List.map_cons, List.nodup_cons] at hnd
    rw [fieldsConform, hag name List.mem_cons_self]
    have hS' := fun f hf => hS f (List.mem_cons_of_mem _ hf)
    obtain ⟨v, vt, rfl, hv⟩ := toJFields_cons_ok h
    rw [wfFields, Bool.and_eq_true, Bool.or_eq_true] at hw
    obtain ⟨rfl, rfl, hr⟩ | ⟨j, mr, hj, hr, rfl⟩ := hv
    · -- unset and optional: no member of that name
      rw [lookupFirst_eq_none.mpr fun hm => hnd.1 ((toJFields_names_declared fs vt ms rest hr).subset hm),
        ih hnd.2 hS' hw.2 hr fun k hk => hag k (List.mem_cons_of_mem _ hk)]
      rfl
    · have hag' : ∀ k ∈ fs.map (·.1), lookupFirst doc k = lookupFirst mr k := fun k hk => by
        rw [hag k (List.mem_cons_of_mem _ hk), lookupFirst_cons, if_neg fun e : name = k => hnd.1 (e ▸ hk)]
      have hc := hS _ List.mem_cons_self v j (hw.1.resolve_left (mt (isUnset_iff v).mp (toJ_ne_unset hj))) hj
      rw [lookupFirst_cons, if_pos rfl]
      simp only [hc, ih hnd.2 hS' hw.2 hr hag', Bool.and_self]

theorem wfFields_append_left {fields : List (String × Bool × Schema)} {fs : List Val} (vt : List Val)
    (hl : fs.length = fields.length) : wfFields fields (fs ++ vt) = wfFields fields fs := by
  induction fields generalizing fs with
  | nil => rw [wfFields, wfFields]
  | cons f rest ih =>
    obtain ⟨name, req, s⟩ := f
    cases fs with
    | nil => cases hl
    | cons v ft => rw [List.cons_append, wfFields, wfFields, ih (Nat.succ.inj hl)]

theorem wfMembers_cons {b : Bool} {s : Schema} {ms : List (Bool × Schema)} {vs : List Val}
    (h : wfMembers ((b, s) :: ms) vs = true) :
    ∃ fields nl vt, s = .obj fields none nl ∧ wfMembers ms vt = true := by
  unfold wfMembers at h
  split at h
  · cases ‹(b, s) :: ms = _›
  · cases ‹(b, s) :: ms = _›
    exact ⟨_, _, _, rfl, (Bool.and_eq_true _ _ ▸ h).2⟩
  · cases ‹(b, s) :: ms = _›
    exact ⟨_, _, _, rfl, (Bool.and_eq_true _ _ ▸ h).2⟩
  · cases h

theorem wfMembers_join {b : Bool} {fields : List (String × Bool × Schema)} {nl : Bool}
    {ms : List (Bool × Schema)} {fs vt : List Val} (hl : fs.length = fields.length) :
    wfMembers ((b, .obj fields none nl) :: ms) (joinMember b fs vt) = (wfFields fields fs && wfMembers ms vt) := by
  cases b with
  | true => rw [joinMember, wfMembers]
  | false => rw [joinMember, wfMembers, wfFields_append_left vt hl, ← hl, List.drop_left']; rfl

theorem wfMembers_plain {members : List (Bool × Schema)} {vs : List Val}
    (h : wfMembers members vs = true) : PlainMembers members := by
  induction members generalizing vs with
  | nil => exact fun _ hm => nomatch hm
  | cons m rest ih =>
    obtain ⟨b, s⟩ := m
    obtain ⟨fields, nl, vt, rfl, ht⟩ := wfMembers_cons h
    exact plainMembers_cons.mpr ⟨⟨fields, nl, rfl⟩, ih ht⟩

theorem members_conforms {members : List (Bool × Schema)} (hp : PlainMembers members)
    (hnd : (declaredNames members).Nodup) (hS : ∀ s ∈ memberProps members, Conforming s)
    {vs : List Val} {ms doc : List (String × J)} (h : wfMembers members vs = true)
    (hj : toJMembers members vs = .ok ms) (hag : ∀ k ∈ declaredNames members, lookupFirst doc k = lookupFirst ms k) :
    allMembers members doc = true := by
  induction members generalizing vs ms with
  | nil => rw [allMembers]
  | cons m rest ih =>
    obtain ⟨b, s⟩ := m
    obtain ⟨⟨fields, nl, rfl⟩, hp'⟩ := plainMembers_cons.mp hp
    obtain ⟨fs, vt, mm, more, rfl, hF, hM, rfl⟩ := toJMembers_cons_ok hj
    rw [wfMembers_join (toJFields_length_eq hF), Bool.and_eq_true] at h
    rw [declaredNames, List.nodup_append] at hnd
    obtain ⟨hndF, hndR, hdisj⟩ := hnd
    rw [declaredNames] at hag
    rw [forall_mem_memberProps_cons] at hS
    have hsubF := toJFields_names_declared fields fs mm [] hF
    have hsubR := toJMembers_names_sublist hp' hM
    -- each member's names see that member's part of what was written
    have hagF : ∀ k ∈ fields.map (·.1), lookupFirst doc k = lookupFirst mm k := fun k hk => by
      rw [hag k (List.mem_append_left _ hk), lookupFirst_append_left fun hm => hdisj k hk k (hsubR.subset hm) rfl]
    have hagR : ∀ k ∈ declaredNames rest, lookupFirst doc k = lookupFirst more k := fun k hk => by
      rw [hag k (List.mem_append_right _ hk), lookupFirst_append_right fun hm => hdisj k (hsubF.subset hm) k hk rfl]
    rw [allMembers, ih hp' hndR hS.2 h.2 hM hagR,
      fields_conforms hndF hS.1 h.1 hF hagF]
    rfl

/-- **C07, conformance through the schema tree** (the fragment `wf`: leaves, arrays, objects, maps, allOf of
    plain objects; any depth):
    what the encoder writes for a well-formed value validates against the schema. -/
theorem toJ_conforms (s : Schema) (v : Val) (j : J)
    (h : wf s v = true) (hj : toJ s v = .ok j) : conforms s j = true := by
  -- `unfold`, not `simp only [wf]`: the catch-all equation of `wf` has a side condition per constructor, which `simp`
  -- would discharge in every dead cell; unfolded, a value of another kind than the schema's leaves `h : false = true`
  induction s using Schema.induct generalizing v j with
  | prim k nl =>
    unfold wf at h
    cases v
    case leaf c d => rw [toJ] at hj; cases hj; rw [conforms]; exact h
    case null =>
      obtain rfl : nl = true := h
      rw [toJ] at hj
      cases hj
      rw [conforms]
    all_goals cases h
  | any => unfold wf at h; cases h
  | arr items nl ih =>
    unfold wf at h
    cases v
    case arr vs =>
      obtain ⟨js, hl, rfl⟩ := toJ_arr_ok hj
      rw [conforms]; exact list_conforms items ih vs js h hl
    case nilarr => rw [toJ] at hj; cases hj; rw [conforms, conformsAll]
    case null =>
      obtain rfl : nl = true := h
      rw [toJ] at hj
      cases hj
      rw [conforms]
    all_goals cases h
  | obj fields addl nl ihF ihA =>
    unfold wf at h
    cases v
    case obj fs ax =>
      obtain ⟨ms, hF, ⟨rfl, rfl⟩ | ⟨a, xs, xm, rfl, rfl, hA, rfl⟩⟩ := toJ_obj_ok hj
      · have hw : wfFields fields fs = true ∧ (fields.map (·.1)).Nodup := by
          cases addl <;> simpa only [Bool.and_eq_true, decide_eq_true_eq] using h
        have hsub := toJFields_names_declared fields fs ms [] hF
        have hex := extras_append (xm := []) (fun k hk => hsub.subset hk) (fun _ hk => nomatch hk)
        rw [List.append_nil] at hex
        have hfc := fields_conforms hw.2 ihF hw.1 hF fun _ _ => rfl
        cases addl with
        | none => exact conforms_obj_none.mpr ⟨hsub.nodup hw.2, hfc, hex⟩
        | some a => exact conforms_obj_some.mpr ⟨hsub.nodup hw.2, hfc, by rw [hex, List.map_nil, conformsAll]⟩
      · simp only [Bool.and_eq_true, decide_eq_true_eq] at h
        obtain ⟨⟨⟨⟨hwF, hnd⟩, hwA⟩, hndx⟩, hdis⟩ := h
        obtain ⟨hcA, hkeys⟩ := addl_conforms a (ihA a rfl) xs xm hwA hA
        rw [← hkeys] at hndx hdis
        have hsub := toJFields_names_declared fields fs ms [] hF
        refine conforms_obj_some.mpr ⟨?_, fields_conforms hnd ihF hwF hF fun k hk => ?_, ?_⟩
        · rw [List.map_append]
          exact List.nodup_append.mpr ⟨hsub.nodup hnd, hndx, fun a ha b hb e => hdis b hb (e ▸ hsub.subset ha)⟩
        · exact lookupFirst_append_left fun hm => hdis k hm hk
        · rw [extras_append (fun k hk => hsub.subset hk) hdis]; exact hcA
    case null =>
      obtain rfl : nl = true := by cases addl <;> exact h
      rw [toJ] at hj; cases hj; rw [conforms]
    all_goals cases addl <;> cases h
  | allOf members ih =>
    unfold wf at h
    cases v
    case obj fs ax =>
      cases ax
      case some => cases h
      simp only [Bool.and_eq_true, decide_eq_true_eq] at h
      obtain ⟨ms, hM, rfl⟩ := toJ_allOf_eq_ok.mp hj
      have hp := wfMembers_plain h.1
      have hsub := toJMembers_names_sublist hp hM
      exact (conforms_allOf (laterAddl_of_plain hp)).mpr
        ⟨hsub.nodup h.2, members_conforms hp h.2 ih h.1 hM fun _ _ => rfl, fun k hk => hsub.subset hk⟩
    all_goals cases h
  | oneOf alts d => unfold wf at h; cases h

/-- … and it never writes `null` for a value of a non-nullable schema of the fragment -/
theorem toJ_null_only_if_nullable (s : Schema) (v : Val)
    (h : wf s v = true) (hj : toJ s v = .ok .null) :
    (match s with | .prim _ nl => nl | .arr _ nl => nl | .obj _ _ nl => nl | _ => false) = true := by
  have hc := toJ_conforms s v .null h hj
  cases s with
  | prim k nl => rwa [conforms] at hc
  | arr items nl => rwa [conforms] at hc
  | obj fields addl nl => rwa [conforms] at hc
  | allOf ms => simp [conforms] at hc
  | _ => simp [wf] at h

theorem anyAlt_of_get (alts : List (List String × Schema)) (i : Nat) (vals : List String) (s : Schema) (j : J)
    (h : alts[i]? = some (vals, s)) (hc : conforms s j = true) : anyAlt alts j = true := by
  induction alts generalizing i with
  | nil => cases h
  | cons a rest ih =>
    rw [anyAlt, Bool.or_eq_true]
    cases i with
    | zero => cases h; exact .inl hc
    | succ k => exact .inr (ih k h)

/-- **C07, oneOf**: a value holding the `i`-th alternative is written as that alternative's encoding,
    which conforms to the alternative (tree theorem), so the document conforms to the oneOf -/
theorem toJ_conforms_oneOf (alts : List (List String × Schema)) (d : Option String) (i : Nat) (vals : List String)
    (s : Schema) (inner : Val) (j : J) (hi : alts[i]? = some (vals, s)) (hw : wf s inner = true)
    (hj : toJ (.oneOf alts d) (.alt i inner) = .ok j) : conforms (.oneOf alts d) j = true := by
  rw [toJ, toJAlt_get alts i vals s inner hi] at hj
  rw [conforms]
  exact anyAlt_of_get alts i vals s j hi (toJ_conforms s inner j hw hj)

/-- non-vacuity: nested object, unset optional array, set map with a null value -/
def exSchemaC : Schema :=
  .obj [("id", true, .prim .int false), ("tags", false, .arr (.prim .str false) false),
        ("owner", false, .obj [("name", true, .prim .str true)] none true)] (some (.prim .int true)) false
def exValC1 : Val := .obj [.leaf "7" "i:7", .unset, .obj [.null] none] (some [("hits", .leaf "3" "i:3"), ("miss", .null)])
def exValC2 : Val := .obj [.leaf "7" "i:7", .arr [.leaf "\"a\"" "s:61"], .null] none

example : wf exSchemaC exValC1 = true := by simp only [wf, wfFields, wfAddl, isUnset, exSchemaC, exValC1]; decide +kernel
example : wf exSchemaC exValC2 = true := by simp only [wf, wfFields, wfList, isUnset, exSchemaC, exValC2]; decide +kernel
def exSchemaA : Schema :=
  .allOf [(true, .obj [("id", true, .prim .int false)] none false), (false, .obj [("extra", false, .prim .str false), ("n", false, .prim .int true)] none false)]
def exValA : Val := .obj [.obj [.leaf "7" "i:7"] none, .leaf "\"a\"" "s:61", .unset] none
example : wf exSchemaA exValA = true := by
  simp only [wf, wfMembers, wfFields, isUnset, exSchemaA, exValA]; decide +kernel
example : ∃ j, toJ exSchemaA exValA = .ok j := by
  simp [toJ, toJMembers, toJFields, exSchemaA, exValA]
example : ∃ j, toJ exSchemaC exValC1 = .ok j := by
  simp [toJ, toJFields, toJAddl, exSchemaC, exValC1, Except.map]

end Goag.JsonM
