import GoagModel.Prim
/-
  C09 — the leaf laws behind "client and server agree": what the generated client formats, the
  generated server parses back to the same value.  For the closed-form leaves (decimal integers
  of the three widths, booleans) this is proved for EVERY value in range; `Prim.parseIntGo` /
  `formatIntGo` / `parseBoolGo` / `formatBoolGo` are the models of strconv.ParseInt /
  FormatInt / ParseBool / FormatBool that the parameter parsers of C04/C05 use, tied to the Go
  library by the routing corpora (every lexeme of the request corpus, every leaf type).
  Floats, times, strings through URL escaping and header canonicalisation are library
  behaviour: validated by the client→server round trips of the check, not proved.
-/
namespace Goag

theorem mapM_map_eq_some {f : α → β} {g : β → Option γ} {h : α → γ} {l : List α}
    (H : ∀ x ∈ l, g (f x) = some (h x)) : (l.map f).mapM g = some (l.map h) := by
  induction l with
  | nil => rfl
  | cons a t ih =>
    rw [List.forall_mem_cons] at H
    simp [H.1, ih H.2]

end Goag

namespace Goag.Prim

theorem digitVal_digitChar : ∀ d, d < 10 → digitVal (Nat.digitChar d) = some d := by decide

theorem digitsVal_append (a b : List Char) (acc : Nat) :
    digitsVal (a ++ b) acc = (digitsVal a acc).bind (digitsVal b) := by
  induction a generalizing acc with
  | nil => rfl
  | cons c cs ih =>
    rw [List.cons_append, digitsVal, digitsVal]
    cases digitVal c with
    | none => rfl
    | some d => exact ih _

theorem digitsVal_digitChar {d acc : Nat} (h : d < 10) :
    digitsVal [Nat.digitChar d] acc = some (acc * 10 + d) := by
  rw [digitsVal, digitVal_digitChar d h]
  rfl

theorem digitsVal_toDigits (n : Nat) : digitsVal (Nat.toDigits 10 n) 0 = some n := by
  induction n using Nat.strongRecOn with
  | _ n ih =>
    by_cases h : n < 10
    · rw [Nat.toDigits_of_lt_base h, digitsVal_digitChar h, Nat.zero_mul, Nat.zero_add]
    · rw [Nat.toDigits_of_base_le (by decide) (by omega), digitsVal_append, ih (n / 10) (by omega),
        Option.bind_some, digitsVal_digitChar (Nat.mod_lt _ (by decide)), Nat.div_add_mod']

theorem digitsVal_all_digits {cs : List Char} {acc n : Nat} (h : digitsVal cs acc = some n) :
    cs.all (fun c => decide ('0' ≤ c ∧ c ≤ '9')) = true := by
  induction cs generalizing acc with
  | nil => rfl
  | cons c rest ih =>
    by_cases hc : '0' ≤ c ∧ c ≤ '9'
    · simp only [digitsVal, digitVal, if_pos hc] at h
      simp only [List.all_cons, Bool.and_eq_true, decide_eq_true_eq]
      exact ⟨hc, ih h⟩
    · simp [digitsVal, digitVal, hc] at h

theorem toDigits_all_digits (n : Nat) :
    (Nat.toDigits 10 n).all (fun c => decide ('0' ≤ c ∧ c ≤ '9')) = true :=
  digitsVal_all_digits (digitsVal_toDigits n)

theorem splitSign_digit {c : Char} {r : List Char} (hp : c ≠ '+') (hm : c ≠ '-') : splitSign (c :: r) = (false, c :: r) := by
  unfold splitSign
  split
  next h => exact absurd (List.cons.inj h).1 hp
  next h => exact absurd (List.cons.inj h).1 hm
  next => rfl

theorem splitSign_minus (r : List Char) : splitSign ('-' :: r) = (true, r) := rfl

theorem splitSign_digits {ds : List Char} (h : ds.all (fun c => decide ('0' ≤ c ∧ c ≤ '9')) = true) :
    splitSign ds = (false, ds) := by
  cases ds with
  | nil => rfl
  | cons c r => exact splitSign_digit (by rintro rfl; simp at h) (by rintro rfl; simp at h)

theorem parseIntGo_toDigits (bits n : Nat) :
    parseIntGo bits (Nat.toDigits 10 n) =
      if n < 2 ^ ((if bits = 0 then 64 else bits) - 1) then some (n : Int) else none := by
  simp [parseIntGo, splitSign_digits (toDigits_all_digits n), digitsVal_toDigits]

theorem parseIntGo_neg_toDigits (bits n : Nat) :
    parseIntGo bits ('-' :: Nat.toDigits 10 n) =
      if n ≤ 2 ^ ((if bits = 0 then 64 else bits) - 1) then some (-(n : Int)) else none := by
  simp [parseIntGo, splitSign_minus, digitsVal_toDigits]

/-- **Integers.** Whatever in-range value the client formats, the server parses back. -/
theorem parseInt_formatInt (bits : Nat) (v : Int)
    (hlo : -(2 ^ ((if bits = 0 then 64 else bits) - 1) : Int) ≤ v)
    (hhi : v < (2 ^ ((if bits = 0 then 64 else bits) - 1) : Int)) :
    parseIntGo bits (formatIntGo v) = some v := by
  unfold formatIntGo natDigits
  split
  next hneg =>
    rw [parseIntGo_neg_toDigits, if_pos, Int.ofNat_natAbs_of_nonpos (Int.le_of_lt hneg), Int.neg_neg]
    -- the bound on `v.natAbs`, compared in `Int`
    apply Int.ofNat_le.mp
    rw [Int.natCast_pow, Int.ofNat_natAbs_of_nonpos (Int.le_of_lt hneg)]
    exact Int.neg_le_of_neg_le hlo
  next hneg =>
    rw [parseIntGo_toDigits, if_pos, Int.natAbs_of_nonneg (Int.not_lt.mp hneg)]
    apply Int.ofNat_lt.mp
    rw [Int.natCast_pow, Int.natAbs_of_nonneg (Int.not_lt.mp hneg)]
    exact hhi

/-- **Booleans.** -/
theorem parseBool_formatBool (b : Bool) : parseBoolGo (formatBoolGo b) = some b := by
  revert b
  decide +kernel

example : parseIntGo 32 (formatIntGo (-2147483648)) = some (-2147483648) := by decide +kernel
example : parseIntGo 32 "2147483648".toList = none := by decide +kernel

/-- in range for the declared width (`bits` 0 = plain `integer`, 64-bit) -/
def InRange (bits : Nat) (v : Int) : Prop :=
  -(2 ^ ((if bits = 0 then 64 else bits) - 1) : Int) ≤ v ∧ v < (2 ^ ((if bits = 0 then 64 else bits) - 1) : Int)

/-- **Arrays** (query / header parameters and response headers that are arrays of integers): the
    element-wise format of any list of in-range values parses back element-wise to that list —
    no element lost, reordered or merged. -/
theorem parseInts_formatInts (bits : Nat) (vs : List Int) (h : ∀ v ∈ vs, InRange bits v) :
    (vs.map formatIntGo).mapM (parseIntGo bits) = some vs := by
  simpa using mapM_map_eq_some (h := id) fun v hv => parseInt_formatInt bits v (h v hv).1 (h v hv).2

theorem parseBools_formatBools (bs : List Bool) : (bs.map formatBoolGo).mapM parseBoolGo = some bs := by
  simpa using mapM_map_eq_some (h := id) fun b _ => parseBool_formatBool b

/-! ### the second sentence of C09 at the leaves: what the client writes for an integer / boolean
    parameter is in the lexical space a validator accepts for `type: integer` / `type: boolean`
    (optional minus sign and at least one decimal digit, no plus sign, no blanks; `true` / `false`).
    Whether the whole request is valid for the operation is judged per run by an OpenAPI request
    validator that is not goag's (kin-openapi's openapi3filter, see the check). -/

def isIntegerLexeme (s : Str) : Bool :=
  match s with
  | '-' :: ds => !ds.isEmpty && ds.all (fun c => decide ('0' ≤ c ∧ c ≤ '9'))
  | ds => !ds.isEmpty && ds.all (fun c => decide ('0' ≤ c ∧ c ≤ '9'))

theorem isIntegerLexeme_digits {ds : List Char} (hne : ds ≠ [])
    (h : ds.all (fun c => decide ('0' ≤ c ∧ c ≤ '9')) = true) :
    isIntegerLexeme ds = true ∧ isIntegerLexeme ('-' :: ds) = true := by
  have hd : (!ds.isEmpty && ds.all fun c => decide ('0' ≤ c ∧ c ≤ '9')) = true := by
    rw [h, List.isEmpty_eq_false_iff.mpr hne]
    rfl
  refine ⟨?_, hd⟩
  unfold isIntegerLexeme
  split
  · simp at h
  · exact hd

theorem formatInt_lexeme (v : Int) : isIntegerLexeme (formatIntGo v) = true := by
  have := isIntegerLexeme_digits Nat.toDigits_ne_nil (toDigits_all_digits v.natAbs)
  unfold formatIntGo natDigits
  split
  · exact this.2
  · exact this.1

theorem formatBool_lexeme (b : Bool) : formatBoolGo b = "true".toList ∨ formatBoolGo b = "false".toList := by
  cases b
  · exact .inr rfl
  · exact .inl rfl

/-- arrays: every element the client writes is an integer lexeme -/
theorem formatInts_lexemes (vs : List Int) : (vs.map formatIntGo).all isIntegerLexeme = true := by
  simp [formatInt_lexeme]

example : isIntegerLexeme (formatIntGo (-9223372036854775808)) = true := by decide +kernel
example : isIntegerLexeme " 42".toList = false := by decide +kernel
example : isIntegerLexeme "+5".toList = false := by decide +kernel

end Goag.Prim
