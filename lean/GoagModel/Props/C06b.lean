import GoagModel.JsonLemmas
/-
  C06 — the round trip: first at the object level, for EVERY property list (`decodeFields` after `toJFields`), then through
  the whole schema tree, for the fragment `rt` of `JsonFragment`: decoding what the encoder wrote gives back exactly the value: unset optionals stay unset, nulls
  stay null, every element, property, map entry ("map entries are preserved": same entries in the same
  order) and allOf member is preserved.

  Outside the fragment: oneOf is `Props/C06c.lean` (under selection hypotheses); untyped values, nil
  slices and empty maps (which need a normal form for "equal") are validated per generated type, not proved.
-/
namespace Goag.JsonM

/-! `decodeFields` (model of the emitted per-property decoder over the shared key map) after `toJFields`
    (model of the emitted property writer), for EVERY property list with distinct names. `hval` is the
    same statement one level down; the tree induction below supplies it. -/

/-- Stated for any key map `km` that agrees with what was written (`ms`) on the declared names (`hag`), not
    for `ms` itself: `members_roundtrip` runs it on one key map shared by all allOf members. `hval`
    is over `fields.zip vs`, each property with its own value: the fragment predicate `rtFields` gives it in that form
    (`rtFields_hval`), and the object-level `fields_roundtrip` below has no fragment predicate at all. In the tree files `ms` is what was written, `doc` a document that a reference
    (`conforms`, `prune`, …) reads, `km` the key map the decoder runs on. -/
theorem fields_roundtrip_agree (tbl : LeafDec) {fields : List (String × Bool × Schema)}
    (hnd : (fields.map (·.1)).Nodup) {vs : List Val} {ms km : List (String × J)}
    (h : toJFields fields vs = .ok (ms, []))
    (hag : ∀ k ∈ fields.map (·.1), lookupAssoc km k = lookupFirst ms k)
    (hval : ∀ f v, (f, v) ∈ fields.zip vs → ∀ j, toJ f.2.2 v = .ok j → decode tbl f.2.2 j = .ok v) :
    ∃ rest, decodeFields tbl fields km = .ok (vs, rest) := by
  induction fields generalizing vs ms km with
  | nil => rw [toJFields] at h; cases h; exact ⟨km, by rw [decodeFields]⟩
  | cons f fs ih =>
    obtain ⟨name, req, s⟩ := f
    rw [List.map_cons, List.nodup_cons] at hnd
    obtain ⟨v, vt, rfl, ⟨rfl, rfl, hr⟩ | ⟨j, mt, hj, hr, rfl⟩⟩ := toJFields_cons_ok h
    · -- unset: no member was written under `name`
      have habs : name ∉ ms.map (·.1) := fun hm => hnd.1 ((toJFields_names_declared fs vt ms [] hr).subset hm)
      obtain ⟨rest, hd⟩ := ih hnd.2 hr (fun k hk => hag k (List.mem_cons_of_mem _ hk))
        fun f v hp => hval f v (List.mem_cons_of_mem _ hp)
      refine ⟨rest, decodeFields_cons_absent ?_ hd⟩
      rw [hag name List.mem_cons_self, lookupFirst_eq_none.mpr habs]
    · -- set: the member is found, decoded and deleted; the other names still see what they saw
      have hag' : ∀ k ∈ fs.map (·.1), lookupAssoc (eraseKey km name) k = lookupFirst mt k := fun k hk => by
        rw [agree_eraseKey hnd.1 hag k hk, lookupFirst_cons, if_neg fun e : name = k => hnd.1 (e ▸ hk)]
      obtain ⟨rest, hd⟩ := ih hnd.2 hr hag' fun f v hp => hval f v (List.mem_cons_of_mem _ hp)
      refine ⟨rest, decodeFields_cons_present ?_ (hval _ v List.mem_cons_self j hj) hd⟩
      rw [hag name List.mem_cons_self, lookupFirst_cons, if_pos rfl]

theorem decodeFields_append (tbl : LeafDec) {fields : List (String × Bool × Schema)}
    (hnd : (fields.map (·.1)).Nodup) {vs : List Val} {ms xm : List (String × J)}
    (h : toJFields fields vs = .ok (ms, [])) (hdis : ∀ k ∈ xm.map (·.1), k ∉ fields.map (·.1))
    (hval : ∀ f v, (f, v) ∈ fields.zip vs → ∀ j, toJ f.2.2 v = .ok j → decode tbl f.2.2 j = .ok v) :
    decodeFields tbl fields (ms ++ xm) = .ok (vs, xm) := by
  have hsub := toJFields_names_declared fields vs ms [] h
  have hag : ∀ k ∈ fields.map (·.1), lookupAssoc (ms ++ xm) k = lookupFirst ms k := fun k hk => by
    rw [lookupAssoc_append, lookupAssoc_eq_none.mpr fun hm => hdis k hm hk, Option.none_or,
      lookupFirst_eq_lookupAssoc (hsub.nodup hnd)]
  obtain ⟨rest, hd⟩ := fields_roundtrip_agree tbl hnd h hag hval
  rw [hd, decodeFields_rest_eq hd, extras_append (fun k hk => hsub.subset hk) hdis]

theorem fields_roundtrip (tbl : LeafDec) (fields : List (String × Bool × Schema)) (vs : List Val)
    (ms : List (String × J)) (hnd : (fields.map (·.1)).Nodup)
    (h : toJFields fields vs = .ok (ms, []))
    (hval : ∀ name req s, (name, req, s) ∈ fields → ∀ v j, v ≠ .unset → toJ s v = .ok j → decode tbl s j = .ok v) :
    decodeFields tbl fields ms = .ok (vs, []) := by
  have := decodeFields_append tbl hnd (xm := []) h (fun _ hk => nomatch hk)
    fun f v hp j hj => hval f.1 f.2.1 f.2.2 (List.of_mem_zip hp).1 v j (toJ_ne_unset hj) hj
  rwa [List.append_nil] at this

/-- the fragment predicate turns the round trip of the element schemas (`hS`) into the form `fields_roundtrip_agree` and
    `decodeFields_append` take: each property with its own value -/
theorem rtFields_hval {tbl : LeafDec} {fields : List (String × Bool × Schema)} {vs : List Val}
    (hS : ∀ f ∈ fields, ∀ v j, rt tbl f.2.2 v = true → toJ f.2.2 v = .ok j → decode tbl f.2.2 j = .ok v)
    (h : rtFields tbl fields vs = true) :
    ∀ f v, (f, v) ∈ fields.zip vs → ∀ j, toJ f.2.2 v = .ok j → decode tbl f.2.2 j = .ok v := by
  induction fields generalizing vs with
  | nil => exact fun _ _ hp => nomatch hp
  | cons f fs ih =>
    obtain ⟨name, req, s⟩ := f
    cases vs with
    | nil => exact fun _ _ hp => nomatch hp
    | cons v vt =>
      rw [rtFields, Bool.and_eq_true] at h
      intro f' v' hp j hj
      cases hp with
      | head =>
        rw [if_neg (mt (isUnset_iff v).mp (toJ_ne_unset hj))] at h
        exact hS _ List.mem_cons_self v j h.1 hj
      | tail _ hp => exact ih (fun f hf => hS f (List.mem_cons_of_mem _ hf)) h.2 f' v' hp j hj

theorem rtMembers_cons {tbl : LeafDec} {b : Bool} {s : Schema} {ms : List (Bool × Schema)} {vs : List Val}
    (h : rtMembers tbl ((b, s) :: ms) vs = true) :
    ∃ fields nl vt, s = .obj fields none nl ∧ rtMembers tbl ms vt = true := by
  unfold rtMembers at h
  split at h
  · cases ‹(b, s) :: ms = _›
  · cases ‹(b, s) :: ms = _›
    exact ⟨_, _, _, rfl, (Bool.and_eq_true _ _ ▸ h).2⟩
  · cases ‹(b, s) :: ms = _›
    exact ⟨_, _, _, rfl, (Bool.and_eq_true _ _ ▸ h).2⟩
  · cases h

theorem rtMembers_join {tbl : LeafDec} {b : Bool} {fields : List (String × Bool × Schema)} {nl : Bool}
    {ms : List (Bool × Schema)} {fs vt : List Val} (hl : fs.length = fields.length) :
    rtMembers tbl ((b, .obj fields none nl) :: ms) (joinMember b fs vt) = (rtFields tbl fields fs && rtMembers tbl ms vt) := by
  cases b with
  | true => rw [joinMember, rtMembers]
  | false => rw [joinMember, rtMembers, ← hl, List.take_left', List.drop_left'] <;> rfl

theorem list_roundtrip (tbl : LeafDec) (s : Schema)
    (hS : ∀ v j, rt tbl s v = true → toJ s v = .ok j → decode tbl s j = .ok v) :
    ∀ (vs : List Val) (js : List J), rtList tbl s vs = true → toJList s vs = .ok js → decodeList tbl s js = .ok vs := by
  intro vs
  induction vs with
  | nil => intro js _ hj; rw [toJList] at hj; cases hj; rw [decodeList]
  | cons v vt ih =>
    intro js h hj
    rw [rtList, Bool.and_eq_true] at h
    obtain ⟨j, jt, hv, ht, rfl⟩ := toJList_cons_eq_ok.mp hj
    exact decodeList_cons_eq_ok.mpr ⟨v, vt, hS v j h.1 hv, ih jt h.2 ht, rfl⟩

theorem addl_roundtrip (tbl : LeafDec) (s : Schema)
    (hS : ∀ v j, rt tbl s v = true → toJ s v = .ok j → decode tbl s j = .ok v) :
    ∀ (xs : List (String × Val)) (xm : List (String × J)), rtAddl tbl s xs = true → toJAddl s xs = .ok xm →
      decodeAddl tbl s xm = .ok xs ∧ xm.map (·.1) = xs.map (·.1) := by
  intro xs
  induction xs with
  | nil => intro xm _ hj; rw [toJAddl] at hj; cases hj; exact ⟨by rw [decodeAddl], rfl⟩
  | cons x xt ih =>
    obtain ⟨k, v⟩ := x
    intro xm h hj
    rw [rtAddl, Bool.and_eq_true] at h
    obtain ⟨j, mt, hv, ht, rfl⟩ := toJAddl_cons_eq_ok.mp hj
    obtain ⟨hd, hk⟩ := ih mt h.2 ht
    exact ⟨decodeAddl_cons_eq_ok.mpr ⟨v, xt, hS v j h.1 hv, hd, rfl⟩, congrArg (k :: ·) hk⟩

theorem rtMembers_plain {tbl : LeafDec} {members : List (Bool × Schema)} {vs : List Val}
    (h : rtMembers tbl members vs = true) : PlainMembers members := by
  induction members generalizing vs with
  | nil => exact fun _ hm => nomatch hm
  | cons m rest ih =>
    obtain ⟨b, s⟩ := m
    obtain ⟨fields, nl, vt, rfl, ht⟩ := rtMembers_cons h
    exact plainMembers_cons.mpr ⟨⟨fields, nl, rfl⟩, ih ht⟩

theorem toJMembers_names_declared (tbl : LeafDec) (members : List (Bool × Schema)) :
    ∀ (vs : List Val) (ms : List (String × J)), rtMembers tbl members vs = true → toJMembers members vs = .ok ms →
      (ms.map (·.1)).Sublist (declaredNames members) :=
  fun _ _ h hj => toJMembers_names_sublist (rtMembers_plain h) hj

theorem members_roundtrip (tbl : LeafDec) {members : List (Bool × Schema)} (hp : PlainMembers members)
    (hnd : (declaredNames members).Nodup)
    (hS : ∀ s ∈ memberProps members, ∀ v j, rt tbl s v = true → toJ s v = .ok j → decode tbl s j = .ok v)
    {vs : List Val} {ms km : List (String × J)} (h : rtMembers tbl members vs = true)
    (hj : toJMembers members vs = .ok ms) (hag : ∀ k ∈ declaredNames members, lookupAssoc km k = lookupFirst ms k) :
    ∃ rest, decodeMembers tbl members km = .ok (vs, rest) := by
  induction members generalizing vs ms km with
  | nil =>
    cases vs with
    | nil => exact ⟨km, by rw [decodeMembers]⟩
    | cons _ _ => simp [rtMembers] at h
  | cons m rest ih =>
    obtain ⟨b, s⟩ := m
    obtain ⟨⟨fields, nl, rfl⟩, hp'⟩ := plainMembers_cons.mp hp
    obtain ⟨fs, vt, mm, more, rfl, hF, hM, rfl⟩ := toJMembers_cons_ok hj
    rw [rtMembers_join (toJFields_length_eq hF), Bool.and_eq_true] at h
    rw [declaredNames] at hnd hag
    obtain ⟨hndF, hndR, hdisj⟩ := List.nodup_append.mp hnd
    rw [forall_mem_memberProps_cons] at hS
    have hsubF := toJFields_names_declared fields fs mm [] hF
    have hsubR := toJMembers_names_sublist hp' hM
    -- this member's names see this member's part of what was written …
    have hagF : ∀ k ∈ fields.map (·.1), lookupAssoc km k = lookupFirst mm k := fun k hk => by
      rw [hag k (List.mem_append_left _ hk), lookupFirst_append_left fun hm => hdisj k hk k (hsubR.subset hm) rfl]
    obtain ⟨rest1, hd1⟩ := fields_roundtrip_agree tbl hndF hF hagF (rtFields_hval hS.1 h.1)
    -- … and the names of the later members, in what this member leaves over, the later parts
    have hagR : ∀ k ∈ declaredNames rest, lookupAssoc rest1 k = lookupFirst more k := fun k hk => by
      rw [agree_rest hnd hag hd1 k hk, lookupFirst_append_right fun hm => hdisj k (hsubF.subset hm) k hk rfl]
    obtain ⟨rest2, hd2⟩ := ih hp' hndR hS.2 h.2 hM hagR
    exact ⟨rest2, decodeMembers_join hd1 hd2⟩

/-- **C06, round trip through the schema tree** (leaf / array / object / map / allOf fragment, any depth). -/
theorem rt_roundtrip (tbl : LeafDec) (s : Schema) (v : Val) (j : J)
    (h : rt tbl s v = true) (hj : toJ s v = .ok j) : decode tbl s j = .ok v := by
  -- `unfold`, not `simp only [rt]`: the catch-all equation of `rt` has a side condition per constructor, which `simp`
  -- would discharge in every dead cell; unfolded, a value of another kind than the schema's leaves `h : false = true`
  induction s using Schema.induct generalizing v j with
  | prim k nl =>
    unfold rt at h
    cases v
    case leaf c d =>
      rw [toJ] at hj; cases hj
      rw [decode]
      dsimp only at h
      split at h
      · next d' rc heq =>
        rw [Bool.and_eq_true, beq_iff_eq, beq_iff_eq] at h
        rw [heq, h.1, h.2]
      · cases h
    case null =>
      obtain rfl : nl = true := h
      rw [toJ] at hj
      cases hj
      rw [decode]
      rfl
    all_goals cases h
  | any => unfold rt at h; cases h
  | arr items nl ih =>
    unfold rt at h
    cases v
    case arr vs =>
      obtain ⟨js, hl, rfl⟩ := toJ_arr_ok hj
      rw [decode, list_roundtrip tbl items ih vs js h hl]; rfl
    case null =>
      obtain rfl : nl = true := h
      rw [toJ] at hj
      cases hj
      rw [decode]
      rfl
    all_goals cases h
  | obj fields addl nl ihF ihA =>
    unfold rt at h
    cases v
    case obj fs ax =>
      obtain ⟨ms, hF, ⟨rfl, rfl⟩ | ⟨a, xs, xm, rfl, rfl, hA, rfl⟩⟩ := toJ_obj_ok hj
      · simp only [Bool.and_eq_true, decide_eq_true_eq] at h
        have hd := decodeFields_append tbl h.2 (xm := []) hF (fun _ hk => nomatch hk) (rtFields_hval ihF h.1)
        rw [List.append_nil] at hd
        cases addl with
        | none => exact decode_obj_noaddl hd
        | some a => exact decode_obj_addl hd (decodeAddl.eq_1 tbl a)   -- no key left over: no map is allocated
      · -- a map: `rt` asks that it is non-empty (an empty one comes back as no map), its keys undeclared (and distinct, as
        -- in a Go map: not needed here)
        simp only [Bool.and_eq_true, decide_eq_true_eq, Bool.not_eq_true'] at h
        obtain ⟨⟨⟨⟨⟨hrF, hnd⟩, hrA⟩, hne⟩, -⟩, hdis⟩ := h
        obtain ⟨hdA, hkeys⟩ := addl_roundtrip tbl a (ihA a rfl) xs xm hrA hA
        rw [decode_obj_addl (decodeFields_append tbl hnd hF (hkeys ▸ hdis) (rtFields_hval ihF hrF)) hdA, hne]; rfl
    case null =>
      obtain rfl : nl = true := h
      rw [toJ] at hj
      cases hj
      rw [decode]
      rfl
    all_goals cases h
  | allOf members ih =>
    unfold rt at h
    cases v
    case obj fs ax =>
      cases ax
      case some => cases h
      simp only [Bool.and_eq_true, decide_eq_true_eq] at h
      obtain ⟨ms, hM, rfl⟩ := toJ_allOf_eq_ok.mp hj
      have hp := rtMembers_plain h.1
      have hndk := (toJMembers_names_sublist hp hM).nodup h.2
      obtain ⟨rest, hd⟩ := members_roundtrip tbl hp h.2 ih h.1 hM
        fun k _ => (lookupFirst_eq_lookupAssoc hndk k).symm
      exact (decode_allOf_eq_ok (laterAddl_of_plain hp)).mpr ⟨fs, rest, hd, rfl⟩
    all_goals cases h
  | oneOf alts d => unfold rt at h; cases h

/-- non-vacuity: a nested object with an unset optional array and a set one -/
def exSchema : Schema :=
  .obj [("id", true, .prim .int false), ("tags", false, .arr (.prim .str false) false),
        ("owner", false, .obj [("name", true, .prim .str true)] none true)] none false
def exVal1 : Val := .obj [.leaf "7" "i:7", .unset, .obj [.null] none] none
def exVal2 : Val := .obj [.leaf "7" "i:7", .arr [.leaf "\"a\"" "s:61", .leaf "\"a\"" "s:61"], .null] none

example : rt exTbl exSchema exVal1 = true := by
  simp only [rt, rtFields, isUnset, exSchema, exVal1]; decide +kernel
example : rt exTbl exSchema exVal2 = true := by
  simp only [rt, rtFields, rtList, isUnset, exSchema, exVal2]; decide +kernel

/-- … and a non-empty map with a null entry next to a declared property -/
def exSchemaM : Schema := .obj [("id", true, .prim .int false)] (some (.prim .str true)) false
def exValM : Val := .obj [.leaf "7" "i:7"] (some [("k1", .leaf "\"a\"" "s:61"), ("k2", .null)])
example : rt exTbl exSchemaM exValM = true := by
  simp only [rt, rtFields, rtAddl, isUnset, exSchemaM, exValM]; decide +kernel

/-- … and a composition: one member by reference (an embedded struct), one inline (flattened) -/
def exSchemaA2 : Schema :=
  .allOf [(true, .obj [("id", true, .prim .int false)] none false), (false, .obj [("name", false, .prim .str false), ("n", false, .prim .int true)] none false)]
def exValA2 : Val := .obj [.obj [.leaf "7" "i:7"] none, .leaf "\"a\"" "s:61", .unset] none
example : rt exTbl exSchemaA2 exValA2 = true := by
  simp only [rt, rtMembers, rtFields, isUnset, exSchemaA2, exValA2, List.length_cons, List.length_nil,
    List.take_succ_cons, List.take_zero, List.drop_succ_cons, List.drop_zero]
  decide +kernel
example : ∃ j, toJ exSchemaA2 exValA2 = .ok j := by
  simp [toJ, toJMembers, toJFields, exSchemaA2, exValA2]

end Goag.JsonM
