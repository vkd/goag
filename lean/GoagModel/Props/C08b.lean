import GoagModel.JsonLemmas
/-
  C08 — "every JSON document that is valid for a schema decodes without error into the schema's Go
  type and re-encodes to an equivalent JSON value", through the whole schema tree, for the schemas
  `frag` of `JsonFragment` ("keeping additional properties where the schema allows them": the members
  under undeclared names come back after the declared ones, each re-encoded by the map's value schema).

  `decode_encode_is_prune`: for every document `j` that conforms to the schema (`conforms`, the
  reference read from the spec alone) and that the decoder accepts, encoding the decoded value
  succeeds and gives exactly `prune tbl s j`: the same document with leaves in the library's
  canonical form, declared properties in declaration order and nothing else — the reference
  the check applies to every generated type ("equivalent JSON value").
  `conforming_decodes`: … and the decoder does accept it, given that the library accepts every
  leaf text of the document (the leaf table is measured from the Go library on every run; a
  lexically valid integer can still be out of range).

  Together: valid documents are never rejected and never change under a decode/encode cycle.
  `bad_shape_rejected`: in the other direction, whatever the decoder accepts has the declared shape at
  every depth (`shapeOk`), so a document with a required property missing or a value of the wrong
  structural kind anywhere below a declared property is rejected (which error names which property
  is the object-level statement of `Props/C08.lean`).
  Outside the fragment (oneOf, untyped values, allOf members with additionalProperties) this is
  validated per generated type.

  Their property- and member-level theorems carry `hag`, the invariant of `agree_eraseKey` / `agree_rest` (`JsonLemmas`), between
  the decoder's key map `km` and the document `doc` that the references read.
-/
namespace Goag.JsonM

theorem fragFields_iff {fields : List (String × Bool × Schema)} :
    fragFields fields = true ↔ ∀ f ∈ fields, frag f.2.2 = true := by
  induction fields with
  | nil => exact ⟨fun _ _ hf => (nomatch hf), fun _ => rfl⟩
  | cons f fs ih => rw [fragFields, Bool.and_eq_true, ih, List.forall_mem_cons]

theorem fragMembers_cons {b : Bool} {s : Schema} {ms : List (Bool × Schema)} (h : fragMembers ((b, s) :: ms) = true) :
    ∃ fields nl, s = .obj fields none nl ∧ (∀ f ∈ fields, frag f.2.2 = true) ∧ fragMembers ms = true := by
  cases s with
  | obj fields addl nl =>
    cases addl with
    | none => rw [fragMembers, Bool.and_eq_true, fragFields_iff] at h; exact ⟨fields, nl, rfl, h⟩
    | some a => simp [fragMembers] at h
  | _ => simp [fragMembers] at h

theorem fragMembers_plain {members : List (Bool × Schema)} (h : fragMembers members = true) :
    PlainMembers members ∧ ∀ s ∈ memberProps members, frag s = true := by
  induction members with
  | nil => exact ⟨fun _ hm => (nomatch hm), fun _ hs => (nomatch hs)⟩
  | cons m ms ih =>
    obtain ⟨b, s⟩ := m
    obtain ⟨fields, nl, rfl, hF, hms⟩ := fragMembers_cons h
    rw [forall_mem_memberProps_cons]
    exact ⟨plainMembers_cons.mpr ⟨⟨fields, nl, rfl⟩, (ih hms).1⟩, hF, (ih hms).2⟩

theorem frag_induct {P : Schema → Prop}
    (prim : ∀ k nl, P (.prim k nl))
    (arr : ∀ items nl, P items → P (.arr items nl))
    (obj : ∀ fields addl nl, (fields.map (·.1)).Nodup → (∀ f ∈ fields, P f.2.2) → (∀ a, addl = some a → P a) →
      P (.obj fields addl nl))
    (allOf : ∀ members, PlainMembers members → (declaredNames members).Nodup → (∀ s ∈ memberProps members, P s) →
      P (.allOf members))
    (s : Schema) (h : frag s = true) : P s := by
  induction s using Schema.induct with
  | prim k nl => exact prim k nl
  | any => cases h
  | arr items nl ih => exact arr items nl (ih (by rwa [frag] at h))
  | obj fields addl nl ihF ihA =>
    cases addl with
    | none =>
      simp only [frag, Bool.and_eq_true, decide_eq_true_eq] at h
      exact obj _ _ _ h.2 (fun f hf => ihF f hf (fragFields_iff.mp h.1 f hf)) nofun
    | some a =>
      simp only [frag, Bool.and_eq_true, decide_eq_true_eq] at h
      exact obj _ _ _ h.1.2 (fun f hf => ihF f hf (fragFields_iff.mp h.1.1 f hf)) fun a' e => ihA a' e (by cases e; exact h.2)
  | allOf members ih =>
    simp only [frag, Bool.and_eq_true, decide_eq_true_eq] at h
    obtain ⟨hp, hfrP⟩ := fragMembers_plain h.1
    exact allOf _ hp h.2 fun s hs => ih s hs (hfrP s hs)
  | oneOf alts d => cases h

def ReEncodes (tbl : LeafDec) (s : Schema) : Prop :=
  ∀ j v, conforms s j = true → decode tbl s j = .ok v → toJ s v = .ok (prune tbl s j)

theorem list_decode_encode (tbl : LeafDec) (s : Schema) (hS : ReEncodes tbl s) :
    ∀ (js : List J) (vs : List Val), conformsAll s js = true → decodeList tbl s js = .ok vs →
      toJList s vs = .ok (pruneList tbl s js) := by
  intro js
  induction js with
  | nil => intro vs _ hd; rw [decodeList] at hd; cases hd; rw [toJList, pruneList]
  | cons j jt ih =>
    intro vs hc hd
    rw [conformsAll, Bool.and_eq_true] at hc
    obtain ⟨v, vt, hv, ht, rfl⟩ := decodeList_cons_eq_ok.mp hd
    rw [pruneList]
    exact toJList_cons_eq_ok.mpr ⟨_, _, hS j v hc.1 hv, ih vt hc.2 ht, rfl⟩

theorem addl_decode_encode (tbl : LeafDec) (a : Schema) (hS : ReEncodes tbl a) :
    ∀ (rest : List (String × J)) (xs : List (String × Val)), conformsAll a (rest.map (·.2)) = true →
      decodeAddl tbl a rest = .ok xs → toJAddl a xs = .ok (pruneExtras tbl a rest) := by
  intro rest
  induction rest with
  | nil => intro xs _ hd; rw [decodeAddl] at hd; cases hd; rw [toJAddl, pruneExtras]
  | cons x xt ih =>
    obtain ⟨k, j⟩ := x
    intro xs hc hd
    rw [List.map_cons, conformsAll, Bool.and_eq_true] at hc
    obtain ⟨v, vt, hv, ht, rfl⟩ := decodeAddl_cons_eq_ok.mp hd
    rw [pruneExtras]
    exact toJAddl_cons_eq_ok.mpr ⟨_, _, hS j v hc.1 hv, ih vt hc.2 ht, rfl⟩

theorem fields_decode_encode (tbl : LeafDec) {fields : List (String × Bool × Schema)} (hnd : (fields.map (·.1)).Nodup)
    (hS : ∀ f ∈ fields, ReEncodes tbl f.2.2)
    {doc : List (String × J)} (hkeys : (doc.map (·.1)).Nodup) (hfc : fieldsConform fields doc = true)
    {km rest : List (String × J)} {vs : List Val} (hag : ∀ k ∈ fields.map (·.1), lookupAssoc km k = lookupAssoc doc k)
    (hd : decodeFields tbl fields km = .ok (vs, rest)) : toJFields fields vs = .ok (pruneFields tbl fields doc, []) := by
  induction fields generalizing km vs with
  | nil => rw [decodeFields] at hd; cases hd; rw [toJFields, pruneFields]
  | cons f fs ih =>
    obtain ⟨name, req, s⟩ := f
    rw [List.map_cons, List.nodup_cons] at hnd
    rw [fieldsConform, Bool.and_eq_true, lookupFirst_eq_lookupAssoc hkeys, ← hag name List.mem_cons_self] at hfc
    rw [pruneFields, ← hag name List.mem_cons_self]
    have hS' := fun f hf => hS f (List.mem_cons_of_mem _ hf)
    obtain ⟨hl, rfl, vt, hr, rfl⟩ | ⟨j, v, vt, hl, hv, hr, rfl⟩ := decodeFields_cons_ok hd
    · rw [hl, toJFields_cons_unset, if_neg nofun]
      exact ih hnd.2 hS' hfc.2 (fun k hk => hag k (List.mem_cons_of_mem _ hk)) hr
    · rw [hl] at hfc ⊢
      exact toJFields_cons_set (hS _ List.mem_cons_self j v hfc.1 hv)
        (ih hnd.2 hS' hfc.2 (agree_eraseKey hnd.1 hag) hr)

theorem members_decode_encode (tbl : LeafDec) {members : List (Bool × Schema)} (hp : PlainMembers members)
    (hnd : (declaredNames members).Nodup)
    (hS : ∀ s ∈ memberProps members, ReEncodes tbl s)
    {doc : List (String × J)} (hkeys : (doc.map (·.1)).Nodup) (hall : allMembers members doc = true)
    {km rest : List (String × J)} {vs : List Val} (hag : ∀ k ∈ declaredNames members, lookupAssoc km k = lookupAssoc doc k)
    (hd : decodeMembers tbl members km = .ok (vs, rest)) : toJMembers members vs = .ok (pruneMembers tbl members doc) := by
  induction members generalizing km vs with
  | nil => rw [decodeMembers] at hd; cases hd; rw [toJMembers, pruneMembers]
  | cons m restM ih =>
    obtain ⟨b, s⟩ := m
    obtain ⟨⟨fields, nl, rfl⟩, hp'⟩ := plainMembers_cons.mp hp
    obtain ⟨fs, rest1, more, hF, hM, rfl⟩ := decodeMembers_cons_ok hd
    rw [declaredNames] at hnd hag
    have hagR := agree_rest hnd hag hF
    rw [List.nodup_append] at hnd
    rw [forall_mem_memberProps_cons] at hS
    rw [allMembers, Bool.and_eq_true] at hall
    rw [pruneMembers]
    exact toJMembers_join
      (fields_decode_encode tbl hnd.1 hS.1 hkeys hall.1
        (fun k hk => hag k (List.mem_append_left _ hk)) hF)
      (ih hp' hnd.2.1 hS.2 hall.2 hagR hM)

/-- **C08, valid documents re-encode to an equivalent JSON value** (the schemas `frag`: leaves, arrays,
    objects, maps, allOf of plain objects; any depth): what the decoder accepts of a conforming document
    encodes to the reference `prune`. `conforms` gives the distinct keys that make its first-match reading
    of the document the decoder's (last duplicate wins), and excludes `null` where a non-nullable array is
    declared (it would decode to the nil slice and come back as `[]`). -/
theorem decode_encode_is_prune (tbl : LeafDec) (s : Schema) (j : J) (v : Val)
    (hfr : frag s = true) (hc : conforms s j = true) (hd : decode tbl s j = .ok v) :
    toJ s v = .ok (prune tbl s j) := by
  refine frag_induct (P := ReEncodes tbl) ?prim ?arr ?obj ?allOf s hfr j v hc hd <;> clear hfr hc hd j v s
  case prim =>
    intro k nl j v hc hd
    cases j <;> simp only [conforms, Bool.false_eq_true] at hc
    case null => subst hc; rw [decode] at hd; cases hd; simp [toJ, prune]
    case raw c =>
      rw [decode] at hd
      split at hd <;> cases hd
      next heq => rw [toJ, prune, heq]
  case arr =>
    intro items nl ih j v hc hd
    cases j <;> simp only [conforms, Bool.false_eq_true] at hc
    case null => subst hc; rw [decode] at hd; cases hd; simp [toJ, prune]
    case arr js =>
      obtain ⟨vs, hl, rfl⟩ := decode_arr_ok hd
      rw [toJ, prune, list_decode_encode tbl items ih js vs hc hl]; rfl
  case obj =>
    intro fields addl nl hnd ihF ihA j v hc hd
    cases j with
    | null => rw [conforms] at hc; subst hc; rw [decode] at hd; cases hd; simp [toJ, prune]
    | obj ms =>
      obtain ⟨vs, rest, hF, ⟨rfl, rfl⟩ | ⟨a, xs, rfl, hA, rfl⟩⟩ := decode_obj_ok hd
      · obtain ⟨hkeys, hfc, -⟩ := conforms_obj_none.mp hc
        rw [prune]
        exact toJ_obj_nomap (fields_decode_encode tbl hnd ihF hkeys hfc (fun _ _ => rfl) hF)
      · obtain ⟨hkeys, hfc, hex⟩ := conforms_obj_some.mp hc
        have hFe := fields_decode_encode tbl hnd ihF hkeys hfc (fun _ _ => rfl) hF
        rw [← decodeFields_rest_eq hF] at hex
        have hAe := addl_decode_encode tbl a (ihA a rfl) rest xs hex hA
        rw [prune, ← decodeFields_rest_eq hF]
        cases xs with
        | cons x xt => exact toJ_obj_map hFe hAe
        | nil =>
          -- no key left over: no map is allocated, and there is nothing to append
          rw [toJAddl] at hAe
          rw [← Except.ok.inj hAe, List.append_nil]
          exact toJ_obj_nomap hFe
    | _ => simp [conforms] at hc
  case allOf =>
    intro members hp hnd ih j v hc hd
    have hla := laterAddl_of_plain hp
    cases j with
    | obj ms =>
      obtain ⟨hkeys, hall, -⟩ := (conforms_allOf hla).mp hc
      obtain ⟨vs, rest, hM, rfl⟩ := (decode_allOf_eq_ok hla).mp hd
      rw [prune, hla, if_neg nofun, List.append_nil]
      exact toJ_allOf_eq_ok.mpr ⟨_, members_decode_encode tbl hp hnd ih hkeys hall (fun _ _ => rfl) hM, rfl⟩
    | _ => simp [conforms] at hc

def Decodes (tbl : LeafDec) (s : Schema) : Prop :=
  ∀ j, conforms s j = true → leavesOk tbl s j = true → ∃ v, decode tbl s j = .ok v

theorem list_decodes (tbl : LeafDec) (s : Schema) (hS : Decodes tbl s) :
    ∀ (js : List J), conformsAll s js = true → leavesOkList tbl s js = true → ∃ vs, decodeList tbl s js = .ok vs := by
  intro js
  induction js with
  | nil => exact fun _ _ => ⟨[], by rw [decodeList]⟩
  | cons j jt ih =>
    intro hc hl
    rw [conformsAll, Bool.and_eq_true] at hc
    rw [leavesOkList, Bool.and_eq_true] at hl
    obtain ⟨v, hv⟩ := hS j hc.1 hl.1
    obtain ⟨vs, hvs⟩ := ih hc.2 hl.2
    exact ⟨v :: vs, decodeList_cons_eq_ok.mpr ⟨v, vs, hv, hvs, rfl⟩⟩

theorem addl_decodes (tbl : LeafDec) (a : Schema) (hS : Decodes tbl a) :
    ∀ (rest : List (String × J)), conformsAll a (rest.map (·.2)) = true → leavesOkList tbl a (rest.map (·.2)) = true →
      ∃ xs, decodeAddl tbl a rest = .ok xs := by
  intro rest
  induction rest with
  | nil => exact fun _ _ => ⟨[], by rw [decodeAddl]⟩
  | cons x xt ih =>
    obtain ⟨k, j⟩ := x
    intro hc hl
    rw [List.map_cons, conformsAll, Bool.and_eq_true] at hc
    rw [List.map_cons, leavesOkList, Bool.and_eq_true] at hl
    obtain ⟨v, hv⟩ := hS j hc.1 hl.1
    obtain ⟨xs, hxs⟩ := ih hc.2 hl.2
    exact ⟨(k, v) :: xs, decodeAddl_cons_eq_ok.mpr ⟨v, xs, hv, hxs, rfl⟩⟩

theorem fields_decodes (tbl : LeafDec) {fields : List (String × Bool × Schema)} (hnd : (fields.map (·.1)).Nodup)
    (hS : ∀ f ∈ fields, Decodes tbl f.2.2)
    {doc : List (String × J)} (hkeys : (doc.map (·.1)).Nodup) (hfc : fieldsConform fields doc = true)
    (hl : leavesOkFields tbl fields doc = true)
    {km : List (String × J)} (hag : ∀ k ∈ fields.map (·.1), lookupAssoc km k = lookupAssoc doc k) :
    ∃ vs rest, decodeFields tbl fields km = .ok (vs, rest) := by
  induction fields generalizing km with
  | nil => exact ⟨[], km, by rw [decodeFields]⟩
  | cons f fs ih =>
    obtain ⟨name, req, s⟩ := f
    rw [List.map_cons, List.nodup_cons] at hnd
    rw [fieldsConform, Bool.and_eq_true, lookupFirst_eq_lookupAssoc hkeys, ← hag name List.mem_cons_self] at hfc
    rw [leavesOkFields, Bool.and_eq_true, ← hag name List.mem_cons_self] at hl
    have hS' := fun f hf => hS f (List.mem_cons_of_mem _ hf)
    cases hla : lookupAssoc km name with
    | none =>
      rw [hla] at hfc
      obtain ⟨vt, rest, hr⟩ := ih hnd.2 hS' hfc.2 hl.2 fun k hk => hag k (List.mem_cons_of_mem _ hk)
      have : req = false := by simpa using hfc.1
      subst this
      exact ⟨_, rest, decodeFields_cons_absent hla hr⟩
    | some j =>
      rw [hla] at hfc hl
      obtain ⟨v, hv⟩ := hS _ List.mem_cons_self j hfc.1 hl.1
      obtain ⟨vt, rest, hr⟩ := ih hnd.2 hS' hfc.2 hl.2 (agree_eraseKey hnd.1 hag)
      exact ⟨_, rest, decodeFields_cons_present hla hv hr⟩

theorem members_decodes (tbl : LeafDec) {members : List (Bool × Schema)} (hp : PlainMembers members)
    (hnd : (declaredNames members).Nodup)
    (hS : ∀ s ∈ memberProps members, Decodes tbl s)
    {doc : List (String × J)} (hkeys : (doc.map (·.1)).Nodup) (hall : allMembers members doc = true)
    (hl : leavesOkMembers tbl members doc = true)
    {km : List (String × J)} (hag : ∀ k ∈ declaredNames members, lookupAssoc km k = lookupAssoc doc k) :
    ∃ vs rest, decodeMembers tbl members km = .ok (vs, rest) := by
  induction members generalizing km with
  | nil => exact ⟨[], km, by rw [decodeMembers]⟩
  | cons m restM ih =>
    obtain ⟨b, s⟩ := m
    obtain ⟨⟨fields, nl, rfl⟩, hp'⟩ := plainMembers_cons.mp hp
    rw [declaredNames] at hnd hag
    rw [forall_mem_memberProps_cons] at hS
    rw [allMembers, Bool.and_eq_true] at hall
    rw [leavesOkMembers, Bool.and_eq_true] at hl
    obtain ⟨fs, rest1, hF⟩ := fields_decodes tbl (List.nodup_append.mp hnd).1 hS.1
      hkeys hall.1 hl.1 fun k hk => hag k (List.mem_append_left _ hk)
    obtain ⟨more, left, hM⟩ := ih hp' (List.nodup_append.mp hnd).2.1 hS.2 hall.2 hl.2 (agree_rest hnd hag hF)
    exact ⟨_, left, decodeMembers_join hF hM⟩

/-- **C08, valid documents decode without error** (same schemas) -/
theorem conforming_decodes (tbl : LeafDec) (s : Schema) (j : J)
    (hfr : frag s = true) (hc : conforms s j = true) (hl : leavesOk tbl s j = true) : ∃ v, decode tbl s j = .ok v := by
  refine frag_induct (P := Decodes tbl) ?prim ?arr ?obj ?allOf s hfr j hc hl <;> clear hfr hc hl j s
  case prim =>
    intro k nl j hc hl
    cases j <;> simp only [conforms, Bool.false_eq_true] at hc
    case null => subst hc; exact ⟨.null, by rw [decode]; rfl⟩
    case raw c =>
      rw [leavesOk] at hl
      split at hl
      · next heq => exact ⟨_, by rw [decode, heq]⟩
      · cases hl
  case arr =>
    intro items nl ih j hc hl
    cases j <;> simp only [conforms, Bool.false_eq_true] at hc
    case null => subst hc; exact ⟨.null, by rw [decode]; rfl⟩
    case arr js =>
      rw [leavesOk] at hl
      obtain ⟨vs, hvs⟩ := list_decodes tbl items ih js hc hl
      exact ⟨.arr vs, by rw [decode, hvs]; rfl⟩
  case obj =>
    intro fields addl nl hnd ihF ihA j hc hl
    cases j with
    | null => rw [conforms] at hc; subst hc; exact ⟨.null, by rw [decode]; rfl⟩
    | obj ms =>
      cases addl with
      | none =>
        obtain ⟨hkeys, hfc, -⟩ := conforms_obj_none.mp hc
        rw [leavesOk] at hl
        obtain ⟨vs, rest, hF⟩ := fields_decodes tbl hnd ihF hkeys hfc hl fun _ _ => rfl
        exact ⟨_, decode_obj_noaddl hF⟩
      | some a =>
        obtain ⟨hkeys, hfc, hex⟩ := conforms_obj_some.mp hc
        rw [leavesOk, Bool.and_eq_true] at hl
        obtain ⟨vs, rest, hF⟩ := fields_decodes tbl hnd ihF hkeys hfc hl.1 fun _ _ => rfl
        rw [← decodeFields_rest_eq hF] at hex hl
        obtain ⟨xs, hA⟩ := addl_decodes tbl a (ihA a rfl) rest hex hl.2
        exact ⟨_, decode_obj_addl hF hA⟩
    | _ => simp [conforms] at hc
  case allOf =>
    intro members hp hnd ih j hc hl
    have hla := laterAddl_of_plain hp
    cases j with
    | obj ms =>
      obtain ⟨hkeys, hall, -⟩ := (conforms_allOf hla).mp hc
      rw [leavesOk] at hl
      obtain ⟨vs, rest, hM⟩ := members_decodes tbl hp hnd ih hkeys hall hl fun _ _ => rfl
      exact ⟨_, (decode_allOf_eq_ok hla).mpr ⟨vs, rest, hM, rfl⟩⟩
    | _ => simp [conforms] at hc

/-- the two together: a valid document goes through a decode/encode cycle and comes out as the
    reference says -/
theorem valid_document_cycle (tbl : LeafDec) (s : Schema) (j : J)
    (hfr : frag s = true) (hc : conforms s j = true) (hl : leavesOk tbl s j = true) :
    ∃ v, decode tbl s j = .ok v ∧ toJ s v = .ok (prune tbl s j) := by
  obtain ⟨v, hv⟩ := conforming_decodes tbl s j hfr hc hl
  exact ⟨v, hv, decode_encode_is_prune tbl s j v hfr hc hv⟩

/-- non-vacuity: a nested document with an absent optional property and keys out of declaration order -/
def exDoc : J := .obj [("owner", .obj [("name", .null)]), ("id", .raw "7")]
def exSchemaD : Schema :=
  .obj [("id", true, .prim .int false), ("tags", false, .arr (.prim .str false) false),
        ("owner", false, .obj [("name", true, .prim .str true)] none true)] none false
example : frag exSchemaD = true := by decide +kernel
example : conforms exSchemaD exDoc = true := by
  simp only [conforms, fieldsConform, lookupFirst, List.find?, String.reduceBEq, Option.map_some, Option.map_none,
    exSchemaD, exDoc]
  decide +kernel
example : leavesOk exTbl exSchemaD exDoc = true := by
  simp only [leavesOk, leavesOkFields, lookupAssoc, List.reverse_cons, List.reverse_nil, List.nil_append,
    List.cons_append, List.find?, String.reduceBEq, Option.map_some, Option.map_none, exSchemaD, exDoc]
  decide +kernel

/-- … and a composition whose members' keys arrive in another order -/
def exSchemaDA : Schema :=
  .allOf [(true, .obj [("id", true, .prim .int false)] none false), (false, .obj [("name", false, .prim .str false)] none false)]
def exDocA : J := .obj [("name", .raw "\"a\""), ("id", .raw "7")]
example : frag exSchemaDA = true := by decide +kernel
example : conforms exSchemaDA exDocA = true := by
  simp only [conforms, allMembers, fieldsConform, lookupFirst, List.find?, String.reduceBEq, Option.map_some,
    exSchemaDA, exDocA]
  decide +kernel
example : leavesOk exTbl exSchemaDA exDocA = true := by
  simp only [leavesOk, leavesOkMembers, leavesOkFields, lookupAssoc, List.reverse_cons, List.reverse_nil,
    List.nil_append, List.cons_append, List.find?, String.reduceBEq, Option.map_some, exSchemaDA, exDocA]
  decide +kernel

def ShapeChecked (tbl : LeafDec) (s : Schema) : Prop := ∀ j v, decode tbl s j = .ok v → shapeOk s j = true

theorem list_shape (tbl : LeafDec) (s : Schema) (hS : ShapeChecked tbl s) :
    ∀ (js : List J) (vs : List Val), decodeList tbl s js = .ok vs → shapeOkList s js = true := by
  intro js
  induction js with
  | nil => intro _ _; rw [shapeOkList]
  | cons j jt ih =>
    intro vs hd
    obtain ⟨v, vt, hv, ht, -⟩ := decodeList_cons_eq_ok.mp hd
    rw [shapeOkList, hS j v hv, ih vt ht]; rfl

theorem addl_shape (tbl : LeafDec) (a : Schema) (hS : ShapeChecked tbl a) :
    ∀ (rest : List (String × J)) (xs : List (String × Val)), decodeAddl tbl a rest = .ok xs →
      shapeOkList a (rest.map (·.2)) = true := by
  intro rest
  induction rest with
  | nil => intro _ _; rw [List.map_nil, shapeOkList]
  | cons x xt ih =>
    obtain ⟨k, j⟩ := x
    intro xs hd
    obtain ⟨v, vt, hv, ht, -⟩ := decodeAddl_cons_eq_ok.mp hd
    rw [List.map_cons, shapeOkList, hS j v hv, ih vt ht]; rfl

theorem fields_shape (tbl : LeafDec) {fields : List (String × Bool × Schema)} (hnd : (fields.map (·.1)).Nodup)
    (hS : ∀ f ∈ fields, ShapeChecked tbl f.2.2)
    {doc km rest : List (String × J)} {vs : List Val} (hag : ∀ k ∈ fields.map (·.1), lookupAssoc km k = lookupAssoc doc k)
    (hd : decodeFields tbl fields km = .ok (vs, rest)) : shapeOkFields fields doc = true := by
  induction fields generalizing km vs with
  | nil => rw [shapeOkFields]
  | cons f fs ih =>
    obtain ⟨name, req, s⟩ := f
    rw [List.map_cons, List.nodup_cons] at hnd
    rw [shapeOkFields, ← hag name List.mem_cons_self]
    have hS' := fun f hf => hS f (List.mem_cons_of_mem _ hf)
    obtain ⟨hl, rfl, vt, hr, -⟩ | ⟨j, v, vt, hl, hv, hr, -⟩ := decodeFields_cons_ok hd
    · rw [hl, ih hnd.2 hS' (fun k hk => hag k (List.mem_cons_of_mem _ hk)) hr]; rfl
    · rw [hl, ih hnd.2 hS' (agree_eraseKey hnd.1 hag) hr]
      simp only [hS _ List.mem_cons_self j v hv, Bool.and_self]

theorem members_shape (tbl : LeafDec) {members : List (Bool × Schema)} (hp : PlainMembers members)
    (hnd : (declaredNames members).Nodup)
    (hS : ∀ s ∈ memberProps members, ShapeChecked tbl s)
    {doc km rest : List (String × J)} {vs : List Val} (hag : ∀ k ∈ declaredNames members, lookupAssoc km k = lookupAssoc doc k)
    (hd : decodeMembers tbl members km = .ok (vs, rest)) : shapeOkMembers members doc = true := by
  induction members generalizing km vs with
  | nil => rw [shapeOkMembers]
  | cons m restM ih =>
    obtain ⟨b, s⟩ := m
    obtain ⟨⟨fields, nl, rfl⟩, hp'⟩ := plainMembers_cons.mp hp
    obtain ⟨fs, rest1, more, hF, hM, -⟩ := decodeMembers_cons_ok hd
    rw [declaredNames] at hnd hag
    rw [forall_mem_memberProps_cons] at hS
    rw [shapeOkMembers,
      fields_shape tbl (List.nodup_append.mp hnd).1 hS.1
        (fun k hk => hag k (List.mem_append_left _ hk)) hF,
      ih hp' (List.nodup_append.mp hnd).2.1 hS.2 (agree_rest hnd hag hF) hM]
    rfl

/-- `frag` is needed for the distinct declared names only: under a repeated name the second lookup would see
    the key map after the first has erased it -/
theorem decode_shapeOk (tbl : LeafDec) (s : Schema) :
    frag s = true → ∀ j v, decode tbl s j = .ok v → shapeOk s j = true := by
  refine frag_induct (P := ShapeChecked tbl) ?prim ?arr ?obj ?allOf s
  case prim =>
    intro k nl j v hd
    cases j with
    | null =>
      rw [decode] at hd
      rw [shapeOk]
      split at hd
      · assumption
      · cases hd
    | raw c => rw [shapeOk]
    | _ => simp [decode] at hd
  case arr =>
    intro items nl ih j v hd
    cases j with
    | null => rw [shapeOk]
    | arr js =>
      obtain ⟨vs, hl, -⟩ := decode_arr_ok hd
      rw [shapeOk]; exact list_shape tbl items ih js vs hl
    | _ => simp [decode] at hd
  case obj =>
    intro fields addl nl hnd ihF ihA j v hd
    cases j with
    | null =>
      rw [decode] at hd
      rw [shapeOk]
      split at hd
      · assumption
      · cases hd
    | obj ms =>
      obtain ⟨vs, rest, hF, hv⟩ := decode_obj_ok hd
      have hFs := fields_shape tbl hnd ihF (fun _ _ => rfl) hF
      obtain ⟨rfl, -⟩ | ⟨a, xs, rfl, hA, -⟩ := hv
      · rw [shapeOk]; exact hFs
      · rw [shapeOk, ← decodeFields_rest_eq hF, addl_shape tbl a (ihA a rfl) rest xs hA, hFs]; rfl
    | _ => simp [decode] at hd
  case allOf =>
    intro members hp hnd ih j v hd
    cases j with
    | obj ms =>
      obtain ⟨vs, rest, hM, -⟩ := (decode_allOf_eq_ok (laterAddl_of_plain hp)).mp hd
      rw [shapeOk]
      exact members_shape tbl hp hnd ih (fun _ _ => rfl) hM
    | _ => simp [decode] at hd

/-- **C08, faults are rejected at every depth** (same schemas): a document in which,
    anywhere below a declared property, a required property is missing, a non-null non-object sits
    where an object is declared, a non-null non-array where an array is declared, or `null` where a
    non-nullable leaf or object is declared, is not decoded. -/
theorem bad_shape_rejected (tbl : LeafDec) (s : Schema) (j : J) (hfr : frag s = true) (hbad : shapeOk s j = false) :
    ∀ v, decode tbl s j ≠ .ok v := fun v hd => by
  rw [decode_shapeOk tbl s hfr j v hd] at hbad
  cases hbad

/-- a missing required property two levels down -/
def exDocBad : J := .obj [("owner", .obj []), ("id", .raw "7")]
example : shapeOk exSchemaD exDocBad = false := by
  simp only [shapeOk, shapeOkFields, lookupAssoc, List.reverse_cons, List.reverse_nil, List.nil_append,
    List.cons_append, List.find?, String.reduceBEq, Option.map_some, Option.map_none, exSchemaD, exDocBad]
  decide +kernel

end Goag.JsonM
