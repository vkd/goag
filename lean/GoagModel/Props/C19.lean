import GoagModel.Dir
/-
  C19 — the output directory reflects only the last invocation, for histories of ANY length.
-/
namespace Goag.Dir

/-- the goag-owned part of a step's result depends only on the invocation, not on what was
    there before (stale files are removed or fully rewritten) -/
theorem step_owned_depends_only_on_invocation (d : Dir) (inv : Inv) (f : Name) (hf : f.owned = true) :
    stepDir d inv f = stepDir emptyDir inv f := by
  cases f with
  | foreign => cases hf
  | _ => rfl

/-- files goag does not own are untouched -/
theorem step_foreign_untouched (d : Dir) (inv : Inv) (n : Nat) :
    stepDir d inv (.foreign n) = d (.foreign n) := rfl

theorem run_foreign_untouched (d : Dir) (h : List Inv) (n : Nat) : run d h (.foreign n) = d (.foreign n) := by
  induction h generalizing d with
  | nil => rfl
  | cons inv tl ih => exact ih (stepDir d inv)

/-- **C19**: after any non-empty sequence of runs into the same directory, the goag-owned
    files are exactly what a single run of the last invocation into an empty directory
    produces, and foreign files are untouched -/
theorem history_last_wins (d : Dir) (h : List Inv) (hne : h ≠ []) (f : Name) :
    run d h f = if f.owned then stepDir emptyDir (h.getLast hne) f else d f := by
  -- the last step decides the owned names without looking at the directory, and no step
  -- touches the others
  have hrun : run d h = stepDir (run d h.dropLast) (h.getLast hne) :=
    (congrArg (run d) (List.dropLast_concat_getLast hne).symm).trans List.foldl_append
  rw [hrun]
  cases f with
  | foreign n => exact run_foreign_untouched d _ n
  | _ => rfl

/-- re-running the same invocation changes nothing -/
theorem rerun_idempotent (d : Dir) (inv : Inv) : stepDir (stepDir d inv) inv = stepDir d inv := rfl

/-- non-vacuity: a directory with a stale client and a user file, two invocations -/
example :
    let d : Dir := fun f => match f with | .client => some (.other 1) | .foreign 0 => some (.other 2) | _ => none
    let h := [⟨true, true, true, 1⟩, ⟨false, false, true, 2⟩]
    run d h .client = none ∧ run d h .components = none ∧ run d h .router = some (.gen 2 .router) ∧ run d h (.foreign 0) = some (.other 2) := by
  decide +kernel

end Goag.Dir
