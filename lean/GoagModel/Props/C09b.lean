import GoagModel.Serve
import GoagModel.Props.C09
/-
  C09 (first sentence, query / header parameters with closed-form leaves) — composed from the
  SERVER model that the routing corpora tie to the generated `new<Op>Params` (`Serve.parseValues`,
  `Serve.pvalue`) and the client's formatters (`Prim.formatIntGo`, `formatBoolGo`, strings verbatim):
  what the generated client writes for a parameter value, the generated server parses to exactly that
  value — scalar parameters from their single text, array parameters element-wise with nothing
  lost, reordered or merged — whatever the measured leaf table says about other types.
-/
namespace Goag.Serve
open Goag.Prim Goag.Spec

inductive PVal where
  | int (v : Int)
  | bool (b : Bool)
  | str (s : String)
deriving Repr, Inhabited

/-- the text the generated client puts on the wire for one value (before URL escaping, which
    `net/url` undoes before the server's parser sees the text) -/
def clientText : PVal → String
  | .int v => String.ofList (formatIntGo v)
  | .bool b => String.ofList (formatBoolGo b)
  | .str s => s

/-- the canonical dump of the typed value, as `pvalue` renders a parsed parameter -/
def dumpOf : PVal → String
  | .int v => "i:" ++ toString v
  | .bool b => "b:" ++ toString b
  | .str s => "s:" ++ toHex s

/-- the value is one the parameter's Go type can hold -/
def PValOk : PType → PVal → Prop
  | .int, .int v => InRange 0 v
  | .int32, .int v => InRange 32 v
  | .int64, .int v => InRange 64 v
  | .bool, .bool _ => True
  | .str, .str _ => True
  | _, _ => False

theorem pvalue_clientText (leaf : LeafTable) (t : PType) (v : PVal) (h : PValOk t v) :
    pvalue leaf t (clientText v) = some (dumpOf v) := by
  revert h
  fun_cases PValOk t v <;> intro h
  -- the three integer widths, booleans, strings, and the combinations `PValOk` excludes
  iterate 3 simp [pvalue, clientText, dumpOf, parseInt_formatInt _ _ h.1 h.2]
  · simp [pvalue, clientText, dumpOf, parseBool_formatBool]
  · simp [pvalue, clientText, dumpOf]
  · exact h.elim

/-- **C09, scalar query / header parameter.** -/
theorem server_parses_client_scalar (leaf : LeafTable) (p : Param) (v : PVal)
    (hs : p.isArray = false) (h : PValOk p.type v) :
    parseValues leaf p [clientText v] = .ok (dumpOf v) := by
  simp [parseValues, hs, pvalue_clientText leaf p.type v h]

/-- **C09, array query / header parameter**: one text per element, parsed element-wise. -/
theorem server_parses_client_array (leaf : LeafTable) (p : Param) (vs : List PVal)
    (hs : p.isArray = true) (h : ∀ v ∈ vs, PValOk p.type v) :
    parseValues leaf p (vs.map clientText) = .ok ("[" ++ ",".intercalate (vs.map dumpOf) ++ "]") := by
  simp [parseValues, hs, mapM_map_eq_some fun v hv => pvalue_clientText leaf p.type v (h v hv)]

example : PValOk .int32 (.int (-2147483648)) := ⟨by decide, by decide⟩

end Goag.Serve
