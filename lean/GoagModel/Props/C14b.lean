import GoagModel.Serve
/-
  C14 — no generated slice expression is out of range (the checked-slicing model of DESIGN §4.14).

  The generated request-path code slices strings at computed positions: the base path and every
  literal part are cut off with `p = p[N:]` behind a `strings.HasPrefix` guard, a variable takes
  `p[:idx]` / `p[idx:]` with `idx` from `strings.Index(p, "/")` (or `len(p)`), and the router's
  `splitPath` cuts `s[1:]`, `s[:idx+1]`, `s[idx+1:]`.  In Go an out-of-range bound panics.  Here every
  slice carries its bounds check (`sliceFrom` / `sliceTo` return `none` = panic) and the theorems say
  that for EVERY program, base path and request path the checked run never panics and computes what
  the unchecked model computes (`Serve.runProg`, the model the C03–C05 correspondence ties to the
  generated code on every run):

  * `runProgC_eq`     — the alternating constant / variable path program;
  * `stripBaseC_safe` — the base-path cut;
  * `splitPathC_safe`, `splitPathC_parts` — the router's `splitPath`: it never panics and its two
    parts concatenate to its argument (nothing of the path is lost or duplicated between tree levels);
    `splitPathC_eq` is its closed form;
  * `peel_eq_split` — peeling one `"/"+segment` per tree level visits the segments `strings.Split` gives.

  Not covered by this model: index expressions guarded by length checks (`hs[0]`, `vs[i]` in loops),
  nil maps and interfaces, the libraries; those stay explored under `recover` (see the check).
-/
namespace Goag.Serve

/-- `strings.Index(p, "/")`: position of the first slash, `none` for -1 -/
def goIndexSlash : List Char → Option Nat
  | [] => none
  | c :: cs => if c == '/' then some 0 else (goIndexSlash cs).map (· + 1)

/-- `p[n:]` and `p[:n]` with Go's bounds check (`none` = the run-time panic) -/
def sliceFrom (p : List Char) (n : Nat) : Option (List Char) := if n ≤ p.length then some (p.drop n) else none
def sliceTo (p : List Char) (n : Nat) : Option (List Char) := if n ≤ p.length then some (p.take n) else none

/-- the path program with every slice checked -/
def runProgC (leaf : LeafTable) : List Seg → List Char → List (String × String) →
    Option (Except PErr (List (String × String)))
  | [], _, acc => some (.ok acc)
  | Seg.const c :: rest, p, acc =>
    if c.isPrefixOf p then
      match sliceFrom p c.length with
      | none => none
      | some p' => runProgC leaf rest p' acc
    else some (.error .wrongPath)
  | Seg.var name t :: rest, p, acc =>
    let idx := (goIndexSlash p).getD p.length
    match sliceTo p idx, sliceFrom p idx with
    | some v, some p' =>
      if v.isEmpty then some (.error (.param "path" name "required")) else
      match pvalue leaf t (String.ofList v) with
      | none => some (.error (.param "path" name "lexical"))
      | some d => runProgC leaf rest p' (acc ++ [(name, d)])
    | _, _ => none

theorem sliceFrom_of_isPrefixOf {c p : List Char} (h : c.isPrefixOf p = true) :
    sliceFrom p c.length = some (p.drop c.length) :=
  if_pos (List.isPrefixOf_iff_prefix.mp h).length_le

/-- the predicate is the negation of `runProg`'s `takeWhile` / `dropWhile` predicate, so that core's
    `findIdx` lemmas apply as they stand -/
theorem goIndexSlash_eq_findIdx? (p : List Char) : goIndexSlash p = p.findIdx? (fun c => !(c != '/')) := by
  induction p with
  | nil => rfl
  | cons c cs ih =>
    rw [goIndexSlash, List.findIdx?_cons, ih, bne, Bool.not_not]

theorem goIndexSlash_lt (p : List Char) (i : Nat) (h : goIndexSlash p = some i) : i < p.length := by
  rw [goIndexSlash_eq_findIdx?, List.findIdx?_eq_some_iff_findIdx_eq] at h
  exact h.1

theorem goIndexSlash_spec (p : List Char) :
    (goIndexSlash p).getD p.length ≤ p.length ∧
    p.take ((goIndexSlash p).getD p.length) = p.takeWhile (· != '/') ∧
    p.drop ((goIndexSlash p).getD p.length) = p.dropWhile (· != '/') := by
  rw [goIndexSlash_eq_findIdx?, ← List.findIdx_eq_getD_findIdx?, ← List.takeWhile_eq_take_findIdx_not,
    ← List.dropWhile_eq_drop_findIdx_not]
  exact ⟨List.findIdx_le_length, rfl, rfl⟩

/-- **C14, path program**: no slice of the generated path parser is out of range, for every
    program and every request path; the checked run is the modelled run -/
theorem runProgC_eq (leaf : LeafTable) (prog : List Seg) :
    ∀ (p : List Char) (acc : List (String × String)), runProgC leaf prog p acc = some (runProg leaf prog p acc) := by
  induction prog with
  | nil => intro p acc; rfl
  | cons s rest ih =>
    intro p acc
    cases s with
    | const c =>
      simp only [runProgC, runProg]
      split
      next hp =>
        rw [sliceFrom_of_isPrefixOf hp]
        exact ih _ acc
      next => rfl
    | var name t =>
      obtain ⟨hle, htake, hdrop⟩ := goIndexSlash_spec p
      simp only [runProgC, runProg, sliceTo, sliceFrom, hle, if_true, htake, hdrop]
      split
      · rfl
      · cases pvalue leaf t (String.ofList (p.takeWhile (· != '/'))) with
        | none => rfl
        | some d => exact ih _ _

theorem runProgC_never_panics (leaf : LeafTable) (prog : List Seg) (p : List Char) (acc : List (String × String)) :
    runProgC leaf prog p acc ≠ none := by
  rw [runProgC_eq]; simp

/-- the base-path cut: `if !HasPrefix(p, base) { error }; p = p[len(base):]` -/
def stripBaseC (base p : List Char) : Option (Option (List Char)) :=
  if base.isPrefixOf p then (sliceFrom p base.length).map some else some none

theorem stripBaseC_safe (base p : List Char) : stripBaseC base p ≠ none := by
  unfold stripBaseC
  split
  next hp => simp [sliceFrom_of_isPrefixOf hp]
  next => simp

/-- the router's `splitPath` with checked slices -/
def splitPathC (s : List Char) : Option (List Char × List Char) :=
  match s with
  | '/' :: _ =>
    match sliceFrom s 1 with
    | none => none
    | some t =>
      match goIndexSlash t with
      | none => some (s, [])
      | some idx =>
        match sliceTo s (idx + 1), sliceFrom s (idx + 1) with
        | some a, some b => some (a, b)
        | _, _ => none
  | _ => some (s, [])

theorem splitPathC_eq (s : List Char) :
    splitPathC s = some (match s with
      | '/' :: rest => ('/' :: rest.takeWhile (· != '/'), rest.dropWhile (· != '/'))
      | _ => (s, [])) := by
  unfold splitPathC
  split
  next rest =>
    obtain ⟨hle, htake, hdrop⟩ := goIndexSlash_spec rest
    simp only [sliceFrom, sliceTo, List.length_cons, Nat.le_add_left, if_true, List.drop_succ_cons, List.drop_zero]
    cases hi : goIndexSlash rest with
    | none =>
      simp only [hi, Option.getD_none, List.take_length, List.drop_length] at htake hdrop
      rw [← htake, ← hdrop]
    | some idx =>
      simp only [hi, Option.getD_some] at hle htake hdrop
      simp [hle, htake, hdrop]
  next => rfl

/-- **C14, router**: `splitPath` never slices out of range … -/
theorem splitPathC_safe (s : List Char) : splitPathC s ≠ none := by
  simp [splitPathC_eq]

/-- … and loses nothing: the two parts concatenate to the argument -/
theorem splitPathC_parts (s a b : List Char) (h : splitPathC s = some (a, b)) : a ++ b = s := by
  rw [splitPathC_eq] at h
  split at h <;> cases h <;> simp

example : splitPathC "/pets/7".toList = some ("/pets".toList, "/7".toList) := by decide +kernel
example : splitPathC "/".toList = some ("/".toList, []) := by decide +kernel
example : goIndexSlash "ab/c".toList = some 2 := by decide +kernel

/-- what `splitPath` computes, in one line: the first `"/"+segment` and everything after it -/
theorem splitPathC_spec (rest : List Char) :
    splitPathC ('/' :: rest) = some ('/' :: rest.takeWhile (· != '/'), rest.dropWhile (· != '/')) :=
  splitPathC_eq _

open Goag.Router

/-- `strings.Split(s, "/")` one segment at a time -/
theorem splitSlashAux_step (cur s : List Char) :
    splitSlashAux cur s =
      (cur.reverse ++ s.takeWhile (· != '/')) ::
        (match s.dropWhile (· != '/') with
         | [] => []
         | _ :: r => splitSlashAux [] r) := by
  fun_induction splitSlashAux cur s with
  | case1 cur => simp
  | case2 cur cs ih => simp
  | case3 cur c cs hc ih => simp [ih, hc]

/-- the router peels one `"/"+segment` per tree level with `splitPath`; doing so until nothing is
    left visits exactly the segments `strings.Split` gives for the path: the level-by-level walk of
    the generated router and the one-shot segmentation of the routing model see the same path -/
def peel : Nat → List Char → List (List Char)
  | 0, _ => []
  | n + 1, p =>
    match splitPathC p with
    | some ('/' :: seg, rest) => seg :: (match rest with | [] => [] | _ => peel n rest)
    | _ => []

theorem peel_eq_split : ∀ (n : Nat) (cs : List Char), cs.length < n → peel n ('/' :: cs) = splitSlash cs := by
  intro n
  induction n with
  | zero => intro cs h; omega
  | succ n ih =>
    intro cs h
    rw [peel, splitPathC_spec, splitSlash, splitSlashAux_step]
    have hlen := (List.dropWhile_sublist (· != '/') (l := cs)).length_le
    have hhead := List.head?_dropWhile_not (· != '/') cs
    cases hd : cs.dropWhile (· != '/') with
    | nil => rfl
    | cons d r =>
      rw [hd] at hlen hhead
      -- what is left starts with the slash that ended the segment
      obtain rfl : d = '/' := by simpa using hhead
      simp only [List.reverse_nil, List.nil_append, List.cons.injEq, true_and]
      exact ih r (by rw [List.length_cons] at hlen; omega)

example : peel 20 "/pets/7/".toList = ["pets".toList, "7".toList, []] := by decide +kernel

end Goag.Serve
