import GoagModel.Sched
import GoagModel.C20Known
/-
  C20 — concurrent requests are isolated.

  `isolation`: in a system whose steps read a shared environment and write only their own
  request's local state, after ANY schedule (any interleaving, any number of requests and
  steps) the local state of request i is what i's own steps alone make of i's initial state.
  Hence every interleaving gives every request the result of its sequential run
  (`interleaving_eq_alone`), and two schedules that give request i the same number of steps
  agree on i (`schedule_independent`).

  `shared_write_breaks_isolation`: the statement is false as soon as steps may write a shared
  cell — the reason the regenerated site table must contain no mutating site
  (`no_mutation_of_allowed`).
-/
namespace Goag.Sched

variable {E L : Type}

theorem update_same (st : Nat → L) (i : Nat) (v : L) : update st i v i = v := if_pos rfl
theorem update_other {st : Nat → L} {i j : Nat} {v : L} (h : j ≠ i) : update st i v j = st j := if_neg h

theorem iter_step (f : L → L) (n : Nat) (x : L) : iter f (n + 1) x = iter f n (f x) := rfl

/-- **C20 (model).** After any schedule, request `i` holds exactly what its own steps make of
    its own initial state; nobody else's steps matter. -/
theorem isolation (sys : Sys E L) (env : E) (sched : List Nat) (st : Nat → L) (i : Nat) :
    run sys env sched st i = iter (sys.step env) (sched.count i) (st i) := by
  induction sched generalizing st with
  | nil => rfl
  | cons j rest ih =>
    rw [run, ih]
    by_cases h : j = i
    · rw [h, update_same, List.count_cons_self, iter_step]
    · rw [update_other (Ne.symm h), List.count_cons_of_ne h]

/-- two schedules that give request `i` the same number of steps agree on `i` -/
theorem schedule_independent (sys : Sys E L) (env : E) (s1 s2 : List Nat) (st : Nat → L) (i : Nat)
    (h : s1.count i = s2.count i) : run sys env s1 st i = run sys env s2 st i := by
  rw [isolation, isolation, h]

/-- every interleaving gives request `i` the result of running its steps alone, with no other
    request in flight -/
theorem interleaving_eq_alone (sys : Sys E L) (env : E) (sched : List Nat) (st : Nat → L) (i : Nat) :
    run sys env sched st i = run sys env (List.replicate (sched.count i) i) st i :=
  schedule_independent sys env _ _ st i List.count_replicate_self.symm

/-- other requests' INITIAL states do not matter either -/
theorem independent_of_others (sys : Sys E L) (env : E) (sched : List Nat) (st st' : Nat → L) (i : Nat)
    (h : st i = st' i) : run sys env sched st i = run sys env sched st' i := by
  rw [isolation, isolation, h]

/-- The same statement is FALSE when a step may write a shared cell: request 0 copies its
    datum through a shared buffer in two steps (put, take); request 1 doing the same in between
    makes request 0 take request 1's datum. -/
def bufSys : SysW Nat (Nat × Nat × Nat) where
  -- local state: (phase, datum, received)
  step := fun buf (ph, d, r) => if ph = 0 then (d, (1, d, r)) else (buf, (2, d, buf))

def bufInit : Nat → Nat × Nat × Nat := fun j => (0, 100 + j, 0)

theorem shared_write_breaks_isolation :
    ((runW bufSys [0, 0] (0, bufInit)).2 0).2.2 = 100 ∧
    ((runW bufSys [0, 1, 0] (0, bufInit)).2 0).2.2 = 101 := by
  decide +kernel

/-- non-vacuity of `isolation`: three requests, an interleaving, a non-trivial step -/
example :
    let sys : Sys Nat Nat := ⟨fun env l => l * 2 + env⟩
    run sys 1 [0, 2, 1, 0, 2, 0] (fun j => j) 0 = 7 ∧ run sys 1 [0, 0, 0] (fun j => j) 0 = 7 := by
  decide +kernel

end Goag.Sched

namespace Goag.C20

/-- a site table accepted by the regenerated obligation contains no mutating site -/
theorem no_mutation_of_allowed (sites : List Site) (h : allAllowed sites = true) :
    ∀ s ∈ sites, mutating s = false := by
  intro s hs
  have ha : allowed s = true := List.all_eq_true.mp h s hs
  -- an allowed site has one of two kinds, neither of them a mutating one
  unfold allowed at ha
  unfold mutating
  split at ha
  next hk =>
    rw [hk]
    decide +kernel
  next hk =>
    rw [hk]
    decide +kernel
  next => cases ha

end Goag.C20
