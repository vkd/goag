import GoagModel.Ref
/-
  C04 — parameter parsing rejects exactly the malformed requests, never invents values.

  `Serve.parseBlock` is the model of the query / header block of the emitted `new<Op>Params`
  (tied to the generated code by the `route -params` facet, which compares it with the real
  `Parse()` on every generated request). `Ref.malformed` / `Ref.specValue` are the property's
  own words: required-and-absent, scalar-supplied-more-than-once, value outside the lexical
  space; the typed value of the supplied text; unset for an absent optional parameter.

  The theorems are for an arbitrary leaf table (the Go library's float / time parsers are a
  parameter), arbitrary parameter lists and arbitrary supplied values.
-/
namespace Goag.Serve
open Goag.Spec Goag.Ref

theorem mapM_option_eq {f : α → Option β} (d : β) {l : List α} :
    l.mapM f = if l.any (fun a => (f a).isNone) then none else some (l.map fun a => (f a).getD d) := by
  induction l with
  | nil => rfl
  | cons a t ih =>
    simp only [List.mapM_cons, ih, List.any_cons, List.map_cons]
    cases f a with
    | none => rfl
    | some b => cases (t.any fun a => (f a).isNone) <;> rfl

theorem parseValues_eq {leaf : LeafTable} {p : Param} {vs : List String} (hne : vs ≠ []) :
    parseValues leaf p vs =
      match (malformed leaf p vs).head? with
      | some k => .error (.param p.loc p.name k)
      | none => .ok (specValue leaf p vs) := by
  unfold parseValues malformed specValue
  match vs with
  | v :: t =>
    simp only [List.isEmpty_cons, Bool.and_false, Bool.false_eq_true, if_false, List.nil_append]
    cases p.isArray with
    | true =>
      rw [mapM_option_eq "?"]
      cases ((v :: t).any fun v => (pvalue leaf p.type v).isNone) <;> rfl
    | false =>
      cases t with
      | nil => cases h : pvalue leaf p.type v <;> simp [h]
      | cons _ _ => rfl

theorem parseValues_ok_iff (leaf : LeafTable) (p : Param) (vs : List String) (hne : vs ≠ []) :
    (∃ d, parseValues leaf p vs = .ok d) ↔ malformed leaf p vs = [] := by
  rw [parseValues_eq hne, ← List.head?_eq_none_iff]
  cases (malformed leaf p vs).head? <;> simp

theorem malformed_nil (leaf : LeafTable) (p : Param) :
    malformed leaf p [] = if p.required then ["required"] else [] := by
  simp [malformed]

theorem parseBlock_cons (leaf : LeafTable) (values : Param → List String) (p : Param) (ps : List Param) :
    parseBlock leaf values (p :: ps) =
      match (malformed leaf p (values p)).head? with
      | some k => .error (.param p.loc p.name k)
      | none => (parseBlock leaf values ps).map (specValue leaf p (values p) :: ·) := by
  rw [parseBlock]
  cases values p with
  | nil =>
    rw [malformed_nil]
    cases p.required <;> cases parseBlock leaf values ps <;> rfl
  | cons v t =>
    rw [parseValues_eq (List.cons_ne_nil _ _)]
    cases (malformed leaf p (v :: t)).head? with
    | some k => rfl
    | none => cases parseBlock leaf values ps <;> rfl

/-- **C04 in one statement.** The block fails with the first fault of the first malformed
    parameter; when no parameter is malformed it returns, field by field, the typed value of the
    supplied text, unset for an absent optional parameter. -/
theorem parseBlock_eq (leaf : LeafTable) (values : Param → List String) (ps : List Param) :
    parseBlock leaf values ps =
      match ps.findSome? (fun p => (malformed leaf p (values p)).head?.map (PErr.param p.loc p.name)) with
      | some e => .error e
      | none => .ok (ps.map fun p => specValue leaf p (values p)) := by
  induction ps with
  | nil => rfl
  | cons p ps ih =>
    rw [parseBlock_cons, ih, List.findSome?_cons]
    cases (malformed leaf p (values p)).head? with
    | some k => rfl
    | none =>
      generalize ps.findSome? _ = r
      cases r <;> rfl

/-- **C04, "if and only if".** The block succeeds exactly when no declared parameter is
    malformed in the request. -/
theorem parseBlock_ok_iff (leaf : LeafTable) (values : Param → List String) (ps : List Param) :
    (∃ ds, parseBlock leaf values ps = .ok ds) ↔ ∀ p ∈ ps, malformed leaf p (values p) = [] := by
  have hnone : ps.findSome? (fun p => (malformed leaf p (values p)).head?.map (PErr.param p.loc p.name)) = none ↔
      ∀ p ∈ ps, malformed leaf p (values p) = [] := by
    simp only [List.findSome?_eq_none_iff, Option.map_eq_none_iff, List.head?_eq_none_iff]
  rw [parseBlock_eq, ← hnone]
  cases ps.findSome? _ <;> simp

/-- **C04, "never invents values".** On success every field holds the typed value of the
    supplied text and every absent optional parameter is unset. -/
theorem parseBlock_values (leaf : LeafTable) (values : Param → List String) (ps : List Param)
    (ds : List String) (h : parseBlock leaf values ps = .ok ds) :
    ds = ps.map (fun p => specValue leaf p (values p)) := by
  rw [parseBlock_eq] at h
  split at h
  · cases h
  · exact (Except.ok.inj h).symm

/-- **C04, "the error identifies the parameter".** A failure names a declared parameter, with a
    fault kind that really applies to it. -/
theorem parseBlock_error (leaf : LeafTable) (values : Param → List String) (ps : List Param)
    (e : PErr) (h : parseBlock leaf values ps = .error e) :
    ∃ p ∈ ps, ∃ kind, e = .param p.loc p.name kind ∧ kind ∈ malformed leaf p (values p) := by
  rw [parseBlock_eq] at h
  split at h
  next e' he =>
    cases h
    obtain ⟨p, hp, hm⟩ := List.exists_of_findSome?_eq_some he
    obtain ⟨k, hk, rfl⟩ := Option.map_eq_some_iff.mp hm
    exact ⟨p, hp, k, rfl, List.mem_of_head? hk⟩
  · cases h

/-- outcome of the block as plain strings (for the concrete examples below) -/
def blockOutcome (r : Except PErr (List String)) : List String :=
  match r with
  | .ok ds => "ok" :: ds
  | .error (.param loc name kind) => ["err", loc, name, kind]
  | .error .wrongPath => ["wrong-path"]

/-- Non-vacuity: a request with one good and one bad parameter. -/
example :
    let ps : List Param := [{ loc := "query", name := "n", required := true, type := .int },
                            { loc := "query", name := "b", required := false, type := .bool }]
    blockOutcome (parseBlock [] (fun p => if p.name == "n" then ["42"] else []) ps) = ["ok", "i:42", "-"] ∧
    blockOutcome (parseBlock [] (fun p => if p.name == "n" then ["42", "43"] else []) ps) = ["err", "query", "n", "multiple"] ∧
    blockOutcome (parseBlock [] (fun p => if p.name == "n" then ["4x"] else []) ps) = ["err", "query", "n", "lexical"] ∧
    blockOutcome (parseBlock [] (fun _ => []) ps) = ["err", "query", "n", "required"] := by
  decide +kernel

end Goag.Serve
