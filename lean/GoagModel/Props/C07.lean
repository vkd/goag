import GoagModel.JsonLemmas
/-
  C07 — the object level of "encoded JSON conforms to the schema", for EVERY property list and
  value list.  `toJFields` is the model of the per-property `writeProperty` sequence of the
  emitted `marshalJSONInnerBody` (tied on every run: canonical JSON of the generated
  MarshalJSON vs `toJ`).  Whenever it succeeds with members `ms`:

  * `toJFields_names_declared` (in `JsonLemmas`): the member names are a sublist of the declared property names,
    in declaration order — no invented name, no duplicate beyond the declaration's own;
  * `toJFields_required_present`: every required property has a member;
  * `toJFields_unset_omitted`: a property whose value is unset has no member (when the declared
    names are distinct);
  * `toJFields_required_unset_fails`: an unset required property is an encoding error, not a
    zero value on the wire
    (the last two are stated for the head of the property list: the writer treats every property as the head in turn).
  Conformance of nested values (kinds, formats, nullability, allOf merging, map entries) is the
  tree theorem of `Props/C07b.lean`.
-/
namespace Goag.JsonM

theorem toJFields_required_present (fields : List (String × Bool × Schema)) (vs : List Val)
    (ms : List (String × J)) (rest : List Val) (h : toJFields fields vs = .ok (ms, rest)) :
    ∀ name s, (name, true, s) ∈ fields → name ∈ ms.map (·.1) := by
  induction fields generalizing vs ms with
  | nil => exact fun _ _ hm => nomatch hm
  | cons f fs ih =>
    intro name s hm
    obtain ⟨v, vt, rfl, ⟨-, hreq, hr⟩ | ⟨j, mt, -, hr, rfl⟩⟩ := toJFields_cons_ok h
    · cases hm with
      | head => cases hreq
      | tail _ hm => exact ih vt ms hr name s hm
    · cases hm with
      | head => exact List.mem_cons_self
      | tail _ hm => exact List.mem_cons_of_mem _ (ih vt mt hr name s hm)

theorem toJFields_required_unset_fails (name : String) (s : Schema) (fs : List (String × Bool × Schema)) (vt : List Val) :
    toJFields ((name, true, s) :: fs) (Val.unset :: vt) = .error "unset required field" := by
  rw [toJFields_cons_unset, if_pos rfl]

theorem toJFields_unset_omitted (name : String) (s : Schema) (fs : List (String × Bool × Schema)) (vt : List Val)
    (ms : List (String × J)) (rest : List Val) (hnd : name ∉ fs.map (·.1))
    (h : toJFields ((name, false, s) :: fs) (Val.unset :: vt) = .ok (ms, rest)) : name ∉ ms.map (·.1) := by
  rw [toJFields_cons_unset] at h
  exact fun hmem => hnd ((toJFields_names_declared fs vt ms rest h).subset hmem)

end Goag.JsonM
