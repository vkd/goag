import GoagModel.Serve
/-
  C05 — path parameters seen by the handler are the matched path segments.

  `Serve.progOf` is the model of how `NewOperation` / `NewHandler` compile a path template into
  the alternating program of constant prefixes and variable extractors that the emitted
  `new<Op>Params` runs (`Serve.runProg`); both are tied to the generated code on every run by
  the `route` facets (every dispatched request's `Parse()` is compared with them).

  The theorem: for EVERY template (any mix of literal and variable segments), every request
  path made of the same number of '/'-free segments whose literal positions agree with the
  template (which is what being dispatched means, C03), every constant still pending and every
  accumulator, running the compiled program over the path gives exactly `refRun`: each
  variable, in template order, receives the typed value of the segment AT ITS OWN POSITION; the
  first variable whose segment is empty, or outside its type's lexical space, is the one the
  error names; no other segment is ever consulted.
-/
namespace Goag.Serve
open Goag.Spec

/-- the request path below the base path made of the given segments -/
def pathOf : List (List Char) → List Char
  | [] => []
  | s :: ss => '/' :: (s ++ pathOf ss)

/-- the request was dispatched to this template: as many segments, literal ones equal -/
def Dispatched : List TSeg → List (List Char) → Prop
  | [], [] => True
  | .lit d :: ts, s :: ss => s = d ∧ Dispatched ts ss
  | .var _ _ :: ts, _ :: ss => Dispatched ts ss
  | _, _ => False

/-- the property's own words: position by position, each variable gets the typed value of its
    own segment; empty → "required", outside the lexical space → "lexical", naming it -/
def refRun (leaf : LeafTable) : List TSeg → List (List Char) → List (String × String) → Except PErr (List (String × String))
  | .var n t :: ts, s :: ss, acc =>
    if s.isEmpty then .error (.param "path" n "required") else
    match pvalue leaf t (String.ofList s) with
    | none => .error (.param "path" n "lexical")
    | some d => refRun leaf ts ss (acc ++ [(n, d)])
  | .lit _ :: ts, _ :: ss, acc => refRun leaf ts ss acc
  | _, _, acc => .ok acc

theorem runProg_const (leaf : LeafTable) (c : List Char) (rest : List Seg) (p : List Char)
    (acc : List (String × String)) :
    runProg leaf (Seg.const c :: rest) (c ++ p) acc = runProg leaf rest p acc := by
  simp [runProg]

theorem runProg_var {leaf : LeafTable} {n : String} {t : PType} {rest : List Seg} {s : List Char}
    {ss : List (List Char)} {acc : List (String × String)} (hs : ∀ c ∈ s, c ≠ '/') :
    runProg leaf (Seg.var n t :: rest) (s ++ pathOf ss) acc =
      if s.isEmpty then .error (.param "path" n "required") else
      match pvalue leaf t (String.ofList s) with
      | none => .error (.param "path" n "lexical")
      | some d => runProg leaf rest (pathOf ss) (acc ++ [(n, d)]) := by
  have hs' : ∀ c ∈ s, (c != '/') = true := fun c hc => bne_iff_ne.mpr (hs c hc)
  have ht : (pathOf ss).takeWhile (· != '/') = [] := by cases ss <;> rfl
  have hd : (pathOf ss).dropWhile (· != '/') = pathOf ss := by cases ss <;> rfl
  rw [runProg, List.takeWhile_append_of_pos hs', List.dropWhile_append_of_pos hs', ht, hd,
    List.append_nil]
  -- the two sides differ only in the auxiliary constant their `match` compiles to
  rfl

/-- **C05.** -/
theorem runProg_progOf (leaf : LeafTable) (ts : List TSeg) (segs : List (List Char)) (pend : List Char)
    (acc : List (String × String)) (hd : Dispatched ts segs) (hns : ∀ s ∈ segs, ∀ c ∈ s, c ≠ '/') :
    runProg leaf (progOf ts pend) (pend ++ pathOf segs) acc = refRun leaf ts segs acc := by
  fun_induction Dispatched ts segs generalizing pend acc with
  | case1 =>
    -- template and path both at their end: what is pending is the last constant
    show runProg leaf (if pend.isEmpty then [] else [Seg.const pend]) (pend ++ []) acc = .ok acc
    split
    · rfl
    · exact runProg_const leaf pend [] [] acc
  | case2 d ts s ss ih =>
    -- a literal segment joins the pending constant
    obtain ⟨rfl, hd⟩ := hd
    have := ih (pend ++ '/' :: s) acc hd (fun s' h => hns s' (List.mem_cons_of_mem _ h))
    rwa [List.append_assoc] at this
  | case3 n t ts s ss ih =>
    -- a variable: the pending constant and its slash are flushed, then the variable reads `s`
    have ih' := fun acc => ih [] acc hd (fun s' h => hns s' (List.mem_cons_of_mem _ h))
    rw [progOf, pathOf, refRun, List.append_cons pend '/' (s ++ pathOf ss), runProg_const,
      runProg_var (hns s List.mem_cons_self)]
    simp only [← ih', List.nil_append]
  | case4 => exact hd.elim

/-- on success the values are, in template order, the typed values of the variables' own
    segments (and nothing else is added) -/
def ownValues (leaf : LeafTable) : List TSeg → List (List Char) → List (String × Option String)
  | .var n t :: ts, s :: ss => (n, pvalue leaf t (String.ofList s)) :: ownValues leaf ts ss
  | .lit _ :: ts, _ :: ss => ownValues leaf ts ss
  | _, _ => []

theorem refRun_ok_values (leaf : LeafTable) (ts : List TSeg) (segs : List (List Char))
    (acc out : List (String × String)) (h : refRun leaf ts segs acc = .ok out) :
    (out.map (fun (n, d) => (n, some d))) = acc.map (fun (n, d) => (n, some d)) ++ ownValues leaf ts segs := by
  fun_induction refRun leaf ts segs acc with
  | case1 => cases h
  | case2 => cases h
  | case3 n t ts s ss acc hs d hv ih =>
    rw [ih h, ownValues, hv, List.map_append, List.append_assoc]
    rfl
  | case4 d ts s ss acc ih => exact ih h
  | case5 acc ts segs hvar hlit =>
    -- neither a variable nor a literal in front of a segment: both stop
    cases h
    rw [ownValues, List.append_nil]
    · exact hvar
    · exact hlit

/-- Non-vacuity: /shops/{shop}/pets/{id} on /shops/5/pets/7, /shops/5/pets/x and /shops//pets/7 -/
def exTs : List TSeg := [TSeg.lit "shops".toList, .var "shop" .int, .lit "pets".toList, .var "id" .int]

def outcomeOf (r : Except PErr (List (String × String))) : List String :=
  match r with
  | .ok vs => "ok" :: vs.map (fun (n, d) => n ++ "=" ++ d)
  | .error (.param loc n k) => ["err", loc, n, k]
  | .error .wrongPath => ["wrong-path"]

example : outcomeOf (runProg [] (progOf exTs []) "/shops/5/pets/7".toList []) = ["ok", "shop=i:5", "id=i:7"] := by decide +kernel
example : outcomeOf (runProg [] (progOf exTs []) "/shops/5/pets/x".toList []) = ["err", "path", "id", "lexical"] := by decide +kernel
example : outcomeOf (runProg [] (progOf exTs []) "/shops//pets/7".toList []) = ["err", "path", "shop", "required"] := by decide +kernel
example : Dispatched exTs ["shops".toList, "5".toList, "pets".toList, "7".toList] := ⟨rfl, rfl, trivial⟩

end Goag.Serve
