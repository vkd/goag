import GoagModel.Props.C02
/-
  C02 (second sentence) — "Writing any of them emits the documented status code (the
  caller-supplied code for `default`), the documented Content-Type, the declared headers and the
  body."

  `Resp.expectedWritten d o` is the model of what the constructors of an operation's response
  types write (file_components.gotmpl ResponseComponent, generated `Write`): it is compared on
  every run, constructor by constructor, with what a `ResponseRecorder` saw from the generated
  package (`written` in the `respf` facet).  The theorems below say that this model is the
  documentation, for every document and operation:

  * soundness  — every entry written for `o` comes from a response the spec documents for `o`
                 and carries exactly that response's status / Content-Type / header set / body kind;
  * completeness — every documented response of `o` (inline, shared, through any alias chain, and
                 every alias NAME of a shared response) has a constructor that writes it so.
-/
namespace Goag.Resp

/-- the status a documented use is written with: its own code, `code` (caller-supplied) for default -/
def docStatus (st : String) : String := if st == "default" then "code" else st

/-- the canonical, de-duplicated, sorted set of the declared header names -/
def docHeaders (df : RespDef) : List String := sortStrings ((df.headers.map Serve.canonKey).eraseDups)

theorem writtenOf_fields {c st : String} {df : RespDef} :
    (writtenOf c st df).ctor = c ∧ (writtenOf c st df).status = docStatus st ∧
    (writtenOf c st df).ct = df.ct ∧ (writtenOf c st df).headers = docHeaders df ∧
    (writtenOf c st df).body = df.body := by
  simp [writtenOf, docStatus, docHeaders]

theorem root_def_unique (d : DocR) (m m' n : String) (df df' : RespDef)
    (h : root d m = some (n, df)) (h' : root d m' = some (n, df')) : df = df' := by
  have := (rootOf_find h).symm.trans (rootOf_find h')
  simpa using this

/-- a response definition the spec documents for `o` under status `st` -/
def Documents (d : DocR) (o : OpR) (st : String) (df : RespDef) : Prop :=
  RespUse.inline st df ∈ o.uses ∨ ∃ m n, RespUse.comp st m ∈ o.uses ∧ root d m = some (n, df)

/-- the status under which `o` first uses a shared response whose chain ends in `rn` (the inner
    search of `expectedWritten`) -/
def usedAs (d : DocR) (o : OpR) (rn : String) : Option String :=
  o.uses.findSome? fun
    | .comp st m => if (root d m).map (·.1) == some rn then some st else none
    | _ => none

theorem usedAs_eq_some {d : DocR} {o : OpR} {rn st : String} (h : usedAs d o rn = some st) :
    ∃ m, RespUse.comp st m ∈ o.uses ∧ (root d m).map (·.1) = some rn := by
  obtain ⟨u, hu, hs⟩ := List.exists_of_findSome?_eq_some h
  cases u with
  | inline => cases hs
  | comp s m =>
    obtain ⟨hc, rfl⟩ := Option.ite_some_none_eq_some.mp hs
    exact ⟨m, hu, eq_of_beq hc⟩

theorem usedAs_isSome {d : DocR} {o : OpR} {rn st m : String} (hu : RespUse.comp st m ∈ o.uses)
    (hr : (root d m).map (·.1) = some rn) : ∃ st', usedAs d o rn = some st' :=
  Option.isSome_iff_exists.mp (List.findSome?_isSome_iff.mpr ⟨_, hu, by simp [hr]⟩)

theorem mem_expectedWritten {d : DocR} {o : OpR} {w : Written} :
    w ∈ expectedWritten d o ↔
      (∃ st df, RespUse.inline st df ∈ o.uses ∧ w = writtenOf ("New" ++ inlineTypeName o st df) st df) ∨
      ∃ n c rn df st, (n, c) ∈ d.comps ∧ root d n = some (rn, df) ∧ usedAs d o rn = some st ∧
        w = writtenOf ("New" ++ n ++ "Response") st df := by
  unfold expectedWritten
  simp only [List.mem_append, List.mem_filterMap]
  refine or_congr ⟨?_, ?_⟩ ⟨?_, ?_⟩
  · rintro ⟨u, hu, h⟩
    cases u with
    | comp => cases h
    | inline st df => exact ⟨st, df, hu, (Option.some.inj h).symm⟩
  · rintro ⟨st, df, hu, rfl⟩
    exact ⟨_, hu, rfl⟩
  · rintro ⟨⟨n, c⟩, hn, h⟩
    split at h
    next => cases h
    next rn df hr =>
      obtain ⟨st, hst, rfl⟩ := Option.map_eq_some_iff.mp h
      exact ⟨n, c, rn, df, st, hn, hr, hst, rfl⟩
  · rintro ⟨n, c, rn, df, st, hn, hr, hst, rfl⟩
    refine ⟨(n, c), hn, ?_⟩
    simp only [hr]
    exact Option.map_eq_some_iff.mpr ⟨st, hst, rfl⟩

/-- **C02, written as documented (soundness).** Whatever a constructor of one of `o`'s response
    types writes is the status, Content-Type, header set and body kind of a response that the spec
    documents for `o` — there is no written entry without a documenting response. -/
theorem written_only_documented (d : DocR) (o : OpR) (w : Written) (hw : w ∈ expectedWritten d o) :
    ∃ st df, Documents d o st df ∧ w.status = docStatus st ∧ w.ct = df.ct ∧
      w.headers = docHeaders df ∧ w.body = df.body := by
  rcases mem_expectedWritten.mp hw with ⟨st, df, hu, rfl⟩ | ⟨n, c, rn, df, st, _, hr, hst, rfl⟩
  · exact ⟨st, df, .inl hu, writtenOf_fields.2⟩
  · -- the use's chain ends in the same NAME as `n`'s, hence in the same definition
    obtain ⟨m, hu, hm⟩ := usedAs_eq_some hst
    obtain ⟨⟨mn, mdf⟩, hrm, rfl⟩ := Option.map_eq_some_iff.mp hm
    cases root_def_unique d m n mn mdf df hrm hr
    exact ⟨st, df, .inr ⟨m, mn, hu, hrm⟩, writtenOf_fields.2⟩

/-- **C02, written as documented (completeness, inline).** Every inline response of `o` has its
    constructor, which writes the documented status (the caller's code for `default`), the
    documented Content-Type, the declared headers and the documented body kind. -/
theorem inline_written (d : DocR) (o : OpR) (st : String) (df : RespDef)
    (hu : RespUse.inline st df ∈ o.uses) :
    ∃ w ∈ expectedWritten d o, w.ctor = "New" ++ inlineTypeName o st df ∧ w.status = docStatus st ∧
      w.ct = df.ct ∧ w.headers = docHeaders df ∧ w.body = df.body :=
  ⟨_, mem_expectedWritten.mpr (.inl ⟨st, df, hu, rfl⟩), writtenOf_fields⟩

/-- **C02, written as documented (completeness, shared responses and their aliases).** If `o`
    documents the shared response `m` under status `st`, then EVERY component name `n` whose alias
    chain ends in the same defining component (the component itself, `m`, any other alias) has a
    constructor `New<n>Response` that writes that definition's Content-Type, headers and body, with
    the status the operation documents it under — `st` itself when the operation uses that shared
    response once (goag refuses specs where it does not: `rejects`). -/
theorem comp_written (d : DocR) (o : OpR) (st m rn : String) (df : RespDef)
    (hu : RespUse.comp st m ∈ o.uses) (hr : root d m = some (rn, df))
    (n : String) (c : String ⊕ RespDef) (hn : (n, c) ∈ d.comps) (df' : RespDef)
    (hrn : root d n = some (rn, df'))
    (honce : ∀ st' m', RespUse.comp st' m' ∈ o.uses → (root d m').map (·.1) = some rn → st' = st) :
    ∃ w ∈ expectedWritten d o, w.ctor = "New" ++ n ++ "Response" ∧ w.status = docStatus st ∧
      w.ct = df.ct ∧ w.headers = docHeaders df ∧ w.body = df.body := by
  cases root_def_unique d n m rn df' df hrn hr
  -- the first use whose root is `rn` exists (`m` is one) and, by `honce`, carries status `st`
  obtain ⟨st', hst⟩ := usedAs_isSome hu (congrArg (Option.map (·.1)) hr)
  obtain ⟨m', hu', hm'⟩ := usedAs_eq_some hst
  cases honce st' m' hu' hm'
  exact ⟨_, mem_expectedWritten.mpr (.inr ⟨n, c, rn, df, st, hn, hrn, hst, rfl⟩), writtenOf_fields⟩

/-- the premises of `comp_written` are satisfiable: a shared default response reached through an
    alias, used once; both names (`Err`, `Oops`) end in the defining component `Err` -/
example :
    let df : RespDef := { ct := "application/json", headers := ["x-id", "X-Id"], body := "json" }
    let d : DocR := { ops := [], comps := [("Err", Sum.inr df), ("Oops", Sum.inl "Err")] }
    root d "Oops" = some ("Err", df) ∧ root d "Err" = some ("Err", df) ∧
      docStatus "default" = "code" ∧ docStatus "404" = "404" := by
  decide +kernel

end Goag.Resp
