import GoagModel.Resp
/-
  C02 (first sentence) — the values a handler can return are exactly the documented responses.

  `Resp.emittedTypes` is the model of which response types goag emits and which unexported
  `write<Op>` methods each carries (an inline response: its own operation's; a shared
  component response: one per operation in its UsedIn list, aliases resolved).  In Go a type
  satisfies the operation's one-method response interface iff it has that method, so
  `Resp.implementers d o` is the set of types a handler of `o` can return.  The model is tied to
  the generated package on every run: `go/types` computes the implementer set of every
  `<Op>Response` interface over ALL named types of the package and it must equal this.

  Theorem: for every document, if operation names are distinct (else: KF-C01-nameCollision)
  the implementers of an operation's response interface are exactly its documented types.
-/
namespace Goag.Resp

theorem rootOf_find {d : DocR} {fuel : Nat} {m n : String} {df : RespDef}
    (h : rootOf d fuel m = some (n, df)) : d.comps.find? (·.1 == n) = some (n, Sum.inr df) := by
  induction fuel generalizing m with
  | zero => cases h
  | succ f ih =>
    unfold rootOf at h
    split at h
    next => exact ih h
    next x def_ hfind =>
      cases h
      have hx : x = n := by simpa using List.find?_some hfind
      rwa [hx] at hfind
    next => cases h

theorem root_mem (d : DocR) (m n : String) (df : RespDef) (h : root d m = some (n, df)) :
    (n, (Sum.inr df : String ⊕ RespDef)) ∈ d.comps :=
  List.mem_of_find?_eq_some (rootOf_find h)

theorem usesRoot_iff {d : DocR} {o : OpR} {n : String} :
    usesRoot d o n = true ↔ ∃ st m, RespUse.comp st m ∈ o.uses ∧ (root d m).map (·.1) = some n := by
  unfold usesRoot
  rw [List.any_eq_true]
  constructor
  · rintro ⟨u, hu, h⟩
    cases u with
    | inline => cases h
    | comp st m => exact ⟨st, m, hu, eq_of_beq h⟩
  · rintro ⟨st, m, hu, h⟩
    exact ⟨_, hu, beq_iff_eq.mpr h⟩

/-- **C02.** -/
theorem implementers_eq_documented (d : DocR) (o : OpR) (ho : o ∈ d.ops)
    (hnames : ∀ o' ∈ d.ops, operationName o' = operationName o → o' = o) (T : String) :
    T ∈ implementers d o ↔ T ∈ documentedTypes d o := by
  -- a shared response carries `write<o>` exactly when `o` itself is among its users
  have hmeth (n : String) : operationName o ∈ (d.ops.filterMap fun o' =>
      if usesRoot d o' n then some (operationName o') else none) ↔ usesRoot d o n = true := by
    rw [List.mem_filterMap]
    constructor
    · rintro ⟨o', ho', h⟩
      obtain ⟨hu, hn⟩ := Option.ite_some_none_eq_some.mp h
      exact hnames o' ho' hn ▸ hu
    · exact fun hu => ⟨o, ho, by rw [if_pos hu]⟩
  unfold implementers documentedTypes emittedTypes inlineTypes compTypes
  simp only [List.mem_map, List.mem_filter, List.mem_append, List.mem_filterMap, List.mem_flatMap,
    List.contains_iff_mem]
  constructor
  · rintro ⟨t, ⟨⟨o', ho', u, hu, h⟩ | ⟨⟨n, c⟩, hn, h⟩, hc⟩, rfl⟩
    · -- an inline response type: it belongs to the one operation with this name
      cases u with
      | comp => cases h
      | inline st df =>
        cases Option.some.inj h
        cases hnames o' ho' (List.mem_singleton.mp hc).symm
        exact ⟨_, hu, rfl⟩
    · cases c with
      | inl => cases h
      | inr df =>
        cases Option.some.inj h
        obtain ⟨st, m, hu, hr⟩ := usesRoot_iff.mp ((hmeth n).mp hc)
        obtain ⟨r, hrm, rfl⟩ := Option.map_eq_some_iff.mp hr
        exact ⟨.comp st m, hu, congrArg (Option.map _) hrm⟩
  · rintro ⟨u, hu, h⟩
    cases u with
    | inline st df =>
      cases Option.some.inj h
      exact ⟨_, ⟨.inl ⟨o, ho, _, hu, rfl⟩, List.mem_singleton.mpr rfl⟩, rfl⟩
    | comp st m =>
      obtain ⟨⟨n, df⟩, hr, rfl⟩ := Option.map_eq_some_iff.mp h
      have huses : usesRoot d o n = true := usesRoot_iff.mpr ⟨st, m, hu, congrArg (Option.map _) hr⟩
      exact ⟨_, ⟨.inr ⟨(n, .inr df), root_mem d m n df hr, rfl⟩, (hmeth n).mpr huses⟩, rfl⟩

end Goag.Resp
