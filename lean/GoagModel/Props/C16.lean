import GoagModel.ServeLemmas
/-
  C16 — middlewares wrap exactly the routed operations, in declared order.

  `serve` is the model of the emitted `API.ServeHTTP`; middlewares are modelled as the
  logging middlewares the harness installs (`logMw i`), for stacks of ANY length `cfg.mws`.
-/
namespace Goag.Serve

def isMw : Ev → Bool
  | .mwEnter .. => true
  | .mwLeave .. => true
  | _ => false

/-- the reverse index loop of `ServeHTTP` is a right fold: the first-declared middleware ends
    up outermost -/
theorem wrapLoop_eq_foldr (ms : List (Handler → Handler)) (h : Handler) :
    wrapLoop ms h = ms.foldr (fun m acc => m acc) h := by
  unfold wrapLoop
  rw [List.foldl_reverse]

theorem foldr_logMw (is : List Nat) (h : Handler) (r : RCtx) :
    (is.map logMw).foldr (fun m acc => m acc) h r =
      is.map (fun i => Ev.mwEnter i (r.tpl.getD "")) ++ h r ++ is.reverse.map Ev.mwLeave := by
  induction is with
  | nil => simp
  | cons i tl ih =>
    simp only [List.map_cons, List.foldr_cons, logMw, ih]
    simp

/-- **C16 (shape)**: a stack of `n` logging middlewares around handler `h` produces
    enter 0 … enter (n-1), then exactly the events of `h`, then leave (n-1) … leave 0 -/
theorem middleware_trace (n : Nat) (h : Handler) (r : RCtx) :
    wrapLoop ((List.range n).map logMw) h r =
      (List.range n).map (fun i => Ev.mwEnter i (r.tpl.getD "")) ++ h r ++ (List.range n).reverse.map Ev.mwLeave := by
  rw [wrapLoop_eq_foldr, foldr_logMw]

/-- what a predicate that ignores the middlewares' own events sees of a wrapped handler -/
theorem filter_wrapLoop {p : Ev → Bool} (he : ∀ i t, p (.mwEnter i t) = false) (hl : ∀ i, p (.mwLeave i) = false)
    (n : Nat) (h : Handler) (r : RCtx) : (wrapLoop ((List.range n).map logMw) h r).filter p = (h r).filter p := by
  rw [middleware_trace, List.filter_append, List.filter_append, filter_map_eq_nil (fun i => he i _),
    filter_map_eq_nil hl, List.nil_append, List.append_nil]

/-- the security wrapper and the operation handler emit no middleware events: everything
    they do (authenticator calls included) happens inside the innermost middleware -/
theorem secured_no_mw (leaf : LeafTable) (api : ApiM) (cfg : Cfg) (o : OpM) (r : RCtx) :
    ∀ e ∈ secured leaf api cfg o r, isMw e = false := by
  obtain ⟨st, h⟩ := filter_secured (p := isMw) (fun _ _ _ => rfl) (fun _ _ => rfl) (fun _ => rfl) (fun _ => rfl)
    leaf api cfg o r
  exact forall_false_of_filter h

/-- **C16 (routed)**: a request dispatched to operation `o` passes through all `cfg.mws`
    middlewares exactly once each, first-declared outermost, all of them outside the security
    check, with the matched template visible to each of them -/
theorem serve_routed (leaf : LeafTable) (api : ApiM) (cfg : Cfg) (req : Req) (o : OpM)
    (hs : (cfg.spec && req.path == api.base ++ "/" ++ api.specName) = false)
    (hr : route api cfg req = some (.op o)) :
    serve leaf api cfg req =
      (List.range cfg.mws).map (fun i => Ev.mwEnter i o.tpl) ++
        secured leaf api cfg o { req := req, tpl := some o.tpl } ++
        (List.range cfg.mws).reverse.map Ev.mwLeave := by
  rw [serve, hs, if_neg Bool.false_ne_true, hr]
  exact middleware_trace ..

/-- **C16 (bypass)**: requests for the spec file, requests that match no operation and CORS
    preflights produce no middleware event at all -/
theorem serve_unrouted_bypass (leaf : LeafTable) (api : ApiM) (cfg : Cfg) (req : Req)
    (h : (cfg.spec && req.path == api.base ++ "/" ++ api.specName) = true ∨
         (∀ o, route api cfg req ≠ some (.op o))) :
    ∀ e ∈ serve leaf api cfg req, isMw e = false := by
  apply forall_false_of_filter
  -- the arms of `serve`: the spec file, not found, a preflight, an operation
  fun_cases serve leaf api cfg req with
  | case1 => rfl
  | case2 =>
    unfold notFound
    split <;> rfl
  | case3 => rfl
  | case4 hspec o hr => exact absurd hr (h.resolve_left hspec o)

/-- every middleware index below the stack length is entered exactly once on a routed request -/
theorem each_middleware_once (leaf : LeafTable) (api : ApiM) (cfg : Cfg) (req : Req) (o : OpM)
    (hs : (cfg.spec && req.path == api.base ++ "/" ++ api.specName) = false)
    (hr : route api cfg req = some (.op o)) (i : Nat) (hi : i < cfg.mws) :
    (serve leaf api cfg req).count (Ev.mwEnter i o.tpl) = 1 := by
  have hnd : ((List.range cfg.mws).map (fun i => Ev.mwEnter i o.tpl)).Nodup :=
    List.nodup_range.map _ (fun a b hab h => hab (by injection h))
  have hin : Ev.mwEnter i o.tpl ∈ (List.range cfg.mws).map (fun i => Ev.mwEnter i o.tpl) :=
    List.mem_map.mpr ⟨i, List.mem_range.mpr hi, rfl⟩
  have hsec : Ev.mwEnter i o.tpl ∉ secured leaf api cfg o { req := req, tpl := some o.tpl } :=
    fun hm => Bool.false_ne_true (secured_no_mw leaf api cfg o _ _ hm).symm
  rw [serve_routed leaf api cfg req o hs hr, List.count_append, List.count_append, hnd.count, if_pos hin,
    List.count_eq_zero_of_not_mem hsec, List.count_eq_zero_of_not_mem (by simp)]

/-- non-vacuity: a stack of three -/
example : wrapLoop ((List.range 3).map logMw) (fun _ => [Ev.nf]) { req := default, tpl := some "/a" } =
    [Ev.mwEnter 0 "/a", Ev.mwEnter 1 "/a", Ev.mwEnter 2 "/a", Ev.nf, Ev.mwLeave 2, Ev.mwLeave 1, Ev.mwLeave 0] :=
  rfl

end Goag.Serve
