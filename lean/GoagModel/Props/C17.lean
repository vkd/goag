import GoagModel.AuthLemmas
/-
  C17 — CORS preflight advertises exactly what the path declares.

  `planItem doc cors pi` is the model of the per-path-item pass of `generator.NewRouter`;
  `refCorsMethods` / `refCorsHeaders` is the reference reading of the spec.
-/
namespace Goag.Serve
open Goag.Spec Goag.Ref

theorem mem_appendIfAbsent (xs : List String) (x y : String) : y ∈ appendIfAbsent xs x ↔ y ∈ xs ∨ y = x := by
  unfold appendIfAbsent
  split
  next h => exact ⟨.inl, fun | .inl hy => hy | .inr e => e ▸ List.contains_iff_mem.mp h⟩
  · rw [List.mem_append, List.mem_singleton]

theorem nodup_appendIfAbsent (xs : List String) (x : String) (h : xs.Nodup) : (appendIfAbsent xs x).Nodup := by
  unfold appendIfAbsent
  split
  · exact h
  next hc =>
    rw [List.nodup_append]
    refine ⟨h, List.pairwise_singleton _ x, fun a ha b hb hab => hc ?_⟩
    rw [← List.mem_singleton.mp hb, ← hab]
    exact List.contains_iff_mem.mpr ha

theorem dedup_fold (l : List String) : ∀ (acc : List String), acc.Nodup →
    (l.foldl appendIfAbsent acc).Nodup ∧ ∀ y, y ∈ l.foldl appendIfAbsent acc ↔ y ∈ acc ∨ y ∈ l := by
  induction l with
  | nil => intro acc h; exact ⟨h, fun y => (or_iff_left List.not_mem_nil).symm⟩
  | cons x tl ih =>
    intro acc h
    obtain ⟨h1, h2⟩ := ih (appendIfAbsent acc x) (nodup_appendIfAbsent acc x h)
    refine ⟨h1, fun y => ?_⟩
    rw [List.foldl_cons, h2 y, mem_appendIfAbsent, List.mem_cons, or_assoc]

/-- the append-if-absent loop yields a duplicate-free list with the same members -/
theorem dedupKeep_spec (l : List String) : (dedupKeep l).Nodup ∧ ∀ y, y ∈ dedupKeep l ↔ y ∈ l := by
  obtain ⟨h1, h2⟩ := dedup_fold l [] List.nodup_nil
  exact ⟨h1, fun y => (h2 y).trans (or_iff_right List.not_mem_nil)⟩

theorem mapE_ok {α β ε : Type} {f : α → Except ε β} {l : List α} {r : List β} (h : mapE f l = .ok r) :
    l.map f = r.map .ok := by
  fun_induction mapE f l generalizing r with
  | case1 =>
    cases h
    rfl
  | case2 | case3 => cases h
  | case4 x xs y hy ys hys ih =>
    cases h
    rw [List.map_cons, List.map_cons, hy, ih hys]

theorem planOp_not_cors {doc : Doc} {pi : PathItem} {o : Operation} {m : OpM} (h : planOp doc pi o = .ok m) :
    m.isCors = false ∧ m.method = o.method ∧ m.tpl = pi.raw := by
  unfold planOp at h
  split at h
  · cases h
  · cases h
    exact ⟨rfl, rfl, rfl⟩

theorem planItem_ok {doc : Doc} {cors : Bool} {pi : PathItem} {it : ItemM} : planItem doc cors pi = .ok it →
    ∃ ops, mapE (planOp doc pi) pi.ops = .ok ops ∧
      if cors && !(pi.ops.any (·.method == "OPTIONS")) && !ops.isEmpty then
        ∃ hs, corsHeadersOf doc pi = .ok hs ∧
          it.ops = ops ++ [{ method := "OPTIONS", tpl := pi.raw, isCors := true,
                             corsMethods := pi.ops.map (·.method), corsHeaders := hs }]
      else it.ops = ops := by
  -- the arms of `planItem`: two errors, with the synthetic arm, without it
  fun_cases planItem doc cors pi with
  | case1 | case2 => nofun
  | case3 ops hops hc hs hhs =>
    rintro ⟨⟩
    exact ⟨ops, hops, (if_pos hc).mpr ⟨hs, hhs, rfl⟩⟩
  | case4 ops hops hc =>
    rintro ⟨⟩
    exact ⟨ops, hops, (if_neg hc).mpr rfl⟩

/-- no synthetic arm unless CORS is enabled and the path item has no OPTIONS operation of its own -/
theorem planItem_no_cors {doc : Doc} {cors : Bool} {pi : PathItem} {it : ItemM} (h : planItem doc cors pi = .ok it)
    (hc : (cors && !(pi.ops.any (·.method == "OPTIONS"))) = false) : ∀ m ∈ it.ops, m.isCors = false := by
  obtain ⟨ops, hops, h⟩ := planItem_ok h
  rw [hc, Bool.false_and, if_neg Bool.false_ne_true] at h
  intro m hm
  have : Except.ok m ∈ pi.ops.map (planOp doc pi) := mapE_ok hops ▸ List.mem_map_of_mem (h ▸ hm)
  obtain ⟨o, _, ho⟩ := List.mem_map.mp this
  exact (planOp_not_cors ho).1

/-- **C17 (methods, presence)**: with CORS enabled, a path item without an OPTIONS operation
    (and with at least one operation) gets exactly one synthetic preflight arm, constructed
    with exactly the path item's declared methods and the header list `hs` computed by
    `corsHeadersOf`; all other arms are the declared operations. -/
theorem cors_arm_exact (doc : Doc) (pi : PathItem) (it : ItemM)
    (hno : pi.ops.any (·.method == "OPTIONS") = false) (hne : pi.ops ≠ [])
    (h : planItem doc true pi = .ok it) :
    ∃ ops hs, mapE (planOp doc pi) pi.ops = .ok ops ∧ corsHeadersOf doc pi = .ok hs ∧
      it.ops = ops ++ [{ method := "OPTIONS", tpl := pi.raw, isCors := true,
                         corsMethods := refCorsMethods pi, corsHeaders := hs }] := by
  obtain ⟨ops, hops, h⟩ := planItem_ok h
  have hops_ne : ops.isEmpty = false := by
    cases ops with
    | nil => exact absurd (List.map_eq_nil_iff.mp (mapE_ok hops)) hne
    | cons _ _ => rfl
  rw [hno, hops_ne] at h
  obtain ⟨hs, hhs, hit⟩ := (if_pos rfl).mp h
  exact ⟨ops, hs, hops, hhs, hit⟩

/-- **C17 (declared OPTIONS is never shadowed)**: a path item with its own OPTIONS operation
    gets no synthetic arm -/
theorem options_not_shadowed (doc : Doc) (cors : Bool) (pi : PathItem) (it : ItemM)
    (hopt : pi.ops.any (·.method == "OPTIONS") = true) (h : planItem doc cors pi = .ok it) :
    ∀ m ∈ it.ops, m.isCors = false := by
  refine planItem_no_cors h ?_
  rw [hopt]
  exact Bool.and_false cors

/-- **C17 (cors off)**: without `cors.enable` no path item has a preflight arm -/
theorem cors_off (doc : Doc) (pi : PathItem) (it : ItemM) (h : planItem doc false pi = .ok it) :
    ∀ m ∈ it.ops, m.isCors = false :=
  planItem_no_cors h rfl

/-- without a CORS handler installed the synthetic arm answers nothing (`pickOp` falls
    through), so the request is handled as if the arm did not exist -/
theorem cors_requires_handler (method : String) (it : ItemM) (r : Routed)
    (h : pickOp method false it = some r) : ∃ o, r = .op o ∧ o.isCors = false := by
  unfold pickOp at h
  split at h
  · cases h
  next o _ =>
    cases hc : o.isCors with
    | true => rw [hc] at h; cases h
    | false => rw [hc] at h; cases h; exact ⟨o, rfl, hc⟩

/-- security headers of a requirement list in the implemented fragment: what the reduced list
    contributes equals what the full requirement list names -/
theorem sec_headers_fragment (doc : Doc) (alts : List (List String)) (red : List (String × SchemeKind))
    (hf : InFragmentSingle alts) (hred : reduceReqs doc alts = .ok red) (x : String) :
    x ∈ red.filterMap (fun p => secHeaderOf p.2) ↔
    x ∈ alts.flatMap (fun alt => alt.filterMap (fun n => (schemeOf doc n).bind secHeaderOf)) := by
  have hmem := mem_reduceReqs_single hf hred
  simp only [List.mem_filterMap, List.mem_flatMap]
  constructor
  · rintro ⟨⟨n, k⟩, hm, hk⟩
    obtain ⟨halt, hsk⟩ := (hmem n k).mp hm
    exact ⟨[n], halt, n, List.mem_singleton.mpr rfl, by rw [hsk]; exact hk⟩
  · rintro ⟨alt, halt, n, hn, hk⟩
    obtain ⟨n', rfl⟩ := hf alt halt
    cases List.mem_singleton.mp hn
    obtain ⟨k, hsk, hk⟩ := Option.bind_eq_some_iff.mp hk
    exact ⟨(n, k), (hmem n k).mpr ⟨halt, hsk⟩, hk⟩

/-- non-vacuity: the dedup loop on a list with repeats -/
example : dedupKeep ["A", "B", "A", "C", "B"] = ["A", "B", "C"] := by decide +kernel

end Goag.Serve
