import GoagModel.JsonLemmas
/-
  C08 — decoding is strict on required / type errors (the struct decoder `decodeFields` is the
  model of the per-property blocks of the emitted `unmarshalJSONInnerBody`), for EVERY
  property list, document and leaf behaviour.  The lossless-on-valid-documents half is the
  tree theorem of `Props/C08b.lean`.
-/
namespace Goag.JsonM

/-- **C08 (required)**: if decoding the declared properties succeeds, every required property
    was present in the document -/
theorem decodeFields_ok_required_present (tbl : LeafDec) (fields : List (String × Bool × Schema))
    (ms : List (String × J)) (vs : List Val) (rest : List (String × J))
    (h : decodeFields tbl fields ms = .ok (vs, rest)) :
    ∀ name s, (name, true, s) ∈ fields → (ms.any (·.1 == name)) = true := by
  intro name s hm
  rw [any_fst_eq]
  induction fields generalizing ms vs with
  | nil => cases hm
  | cons f fs ih =>
    obtain ⟨fname, freq, fsch⟩ := f
    obtain ⟨-, hreq, vt, hr, -⟩ | ⟨j, v, vt, hl, -, hr, -⟩ := decodeFields_cons_ok h
    · cases hm with
      | head => cases hreq
      | tail _ hm => exact ih ms vt hr hm
    · cases hm with
      | head => exact Decidable.byContradiction fun hn => by rw [lookupAssoc_eq_none.mpr hn] at hl; cases hl
      | tail _ hm => exact (eraseKey_keys_sublist ms fname).subset (ih _ vt hr hm)

theorem decodeFields_cons_error {tbl : LeafDec} {name : String} {req : Bool} {s : Schema}
    {fs : List (String × Bool × Schema)} {ms : List (String × J)} {e : DErr}
    (h : decodeFields tbl ((name, req, s) :: fs) ms = .error e) :
    (req = true ∧ e = .missing name) ∨ (∃ j e', decode tbl s j = .error e' ∧ e = e'.under name) ∨
      ∃ ms', decodeFields tbl fs ms' = .error e := by
  rw [decodeFields] at h
  split at h
  · split at h
    · next hreq => cases h; exact .inl ⟨hreq, rfl⟩
    · split at h
      · next hr => cases h; exact .inr (.inr ⟨ms, hr⟩)
      · cases h
  · next j _ =>
    split at h
    · next e' hd => cases h; exact .inr (.inl ⟨j, e', hd, rfl⟩)
    · split at h
      · next hr => cases h; exact .inr (.inr ⟨_, hr⟩)
      · cases h

theorem DErr.under_eq_missing {k n : String} {e : DErr} (h : e.under n = .missing k) : e = .missing k := by
  cases e with
  | type o => cases o <;> cases h
  | additional => cases h
  | _ => exact h

/-- **C08 (error names the property)**: a type error of a declared property never leaves the
    property decoder unnamed -/
theorem decodeFields_never_unnamed_type (tbl : LeafDec) (fields : List (String × Bool × Schema))
    (ms : List (String × J)) :
    decodeFields tbl fields ms ≠ .error (.type none) ∧ decodeFields tbl fields ms ≠ .error .additional := by
  suffices ∀ e, decodeFields tbl fields ms = .error e → e ≠ .type none ∧ e ≠ .additional from
    ⟨fun h => (this _ h).1 rfl, fun h => (this _ h).2 rfl⟩
  intro e h
  induction fields generalizing ms with
  | nil => rw [decodeFields] at h; cases h
  | cons f fs ih =>
    obtain ⟨name, req, s⟩ := f
    obtain ⟨-, rfl⟩ | ⟨j, e', -, rfl⟩ | ⟨ms', hr⟩ := decodeFields_cons_error h
    · exact ⟨nofun, nofun⟩
    · cases e' with
      | type o => cases o <;> exact ⟨nofun, nofun⟩
      | _ => exact ⟨nofun, nofun⟩
    · exact ih ms' hr

/-- a "key is missing" error names a declared required property, or is the error of a nested
    value of a declared property -/
theorem decodeFields_missing_origin (tbl : LeafDec) (fields : List (String × Bool × Schema))
    (ms : List (String × J)) (k : String) (h : decodeFields tbl fields ms = .error (.missing k)) :
    ∃ name req s, (name, req, s) ∈ fields ∧
      ((name = k ∧ req = true) ∨ ∃ j, decode tbl s j = .error (.missing k)) := by
  induction fields generalizing ms with
  | nil => rw [decodeFields] at h; cases h
  | cons f fs ih =>
    obtain ⟨name, req, s⟩ := f
    obtain ⟨hreq, e⟩ | ⟨j, e', hd, e⟩ | ⟨ms', hr⟩ := decodeFields_cons_error h
    · exact ⟨name, req, s, List.mem_cons_self, .inl ⟨(DErr.missing.inj e).symm, hreq⟩⟩
    · rw [DErr.under_eq_missing e.symm] at hd
      exact ⟨name, req, s, List.mem_cons_self, .inr ⟨j, hd⟩⟩
    · obtain ⟨n, r, s', hm, hor⟩ := ih ms' hr
      exact ⟨n, r, s', List.mem_cons_of_mem _ hm, hor⟩

/-- non-vacuity: dropping the required key of a two-property object is an error naming it -/
example : decodeFields [] [("a", true, .prim .str false), ("b", false, .any)] [("b", .null)] = .error (.missing "a") := by
  simp [decodeFields, lookupAssoc]

end Goag.JsonM
