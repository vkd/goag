import GoagModel.AuthLemmas
/-
  C11 — security requirements are enforced per operation, no more and no less.

  `secured … o` is the model of `middlewares(h, authMiddlewareOr(...))` emitted around the
  operation handler at dispatch; `o.auth = authRefs red` where `red` is what
  `NewSecurityRequirements` keeps of the operation's own effective requirement list.
  `refAuth` / `altAccepted` is the reference reading of the requirement list.

  The full statement (any requirement list) is FALSE of the code: a requirement naming two
  schemes keeps only one of them, an empty requirement `{}` is dropped, and schemes of kinds
  goag does not implement are dropped silently (known findings KF-C11-arity,
  KF-C11-unsupported; negative theorems below).  The theorems are proved for the fragment
  `InFragment`.
-/
namespace Goag.Serve
open Goag.Spec Goag.Ref

/-- the fragment of requirement lists goag implements: every alternative names exactly one
    scheme, of a supported kind, and all bearer alternatives name the same scheme (the generated
    API has a single `SecurityBearerAuth` slot) -/
structure InFragment (doc : Doc) (alts : List (List String)) : Prop where
  single : ∀ alt ∈ alts, ∃ n, alt = [n]
  supported : ∀ n, [n] ∈ alts → ∃ r, schemeRef doc n = some r
  oneBearer : ∀ n n', [n] ∈ alts → [n'] ∈ alts →
      schemeOf doc n = some .bearer → schemeOf doc n' = some .bearer → n = n'

/-- the full-strength statement (kept visible; not provable for the code, see negations) -/
def AuthExactFull : Prop :=
  ∀ (doc : Doc) (alts : List (List String)) (red : List (String × SchemeKind)) (cfg : Cfg) (req : Req),
    reduceReqs doc alts = .ok red →
    ((authOr (authRefs red) cfg req).2 = none ↔ alts.flatMap (altAccepted doc cfg req) = [])

/-- Soundness needs of the fragment only that every alternative names one scheme: schemes of unsupported
    kinds and several bearer schemes cost completeness (`auth_complete`), never soundness. -/
theorem auth_sound_of_single {doc : Doc} {alts : List (List String)} {red : List (String × SchemeKind)}
    (cfg : Cfg) (req : Req) (hs : InFragmentSingle alts) (hred : reduceReqs doc alts = .ok red)
    {s t : String} (h : (authOr (authRefs red) cfg req).2 = some (s, t)) :
    [s] ∈ alts ∧ acceptScheme doc cfg req s = some (s, t) := by
  obtain ⟨r, hm, hacc⟩ := authOr_sound _ cfg req s t h
  obtain ⟨n, k, hnk, hrk⟩ := mem_authRefs hm
  obtain ⟨halt, hk⟩ := (mem_reduceReqs_single hs hred n k).mp hnk
  have hr : schemeRef doc n = some r := by rw [schemeRef_eq, hk]; exact hrk
  obtain rfl : s = n := (accepted_fst hacc).trans (refOfKind_scheme hrk)
  exact ⟨halt, (acceptScheme_eq cfg req hr).trans hacc⟩

/-- **C11 (no less)**: when the wrapper lets a request through with the request returned by
    scheme `s` for token `t`, then `[s]` is one of the operation's own alternatives and `s`'s
    authenticator accepted the request's own credential `t` — credentials for a scheme the
    operation does not list never grant access. -/
theorem auth_sound (doc : Doc) (alts : List (List String)) (red : List (String × SchemeKind))
    (cfg : Cfg) (req : Req) (hf : InFragment doc alts) (hred : reduceReqs doc alts = .ok red)
    (s t : String) (h : (authOr (authRefs red) cfg req).2 = some (s, t)) :
    [s] ∈ alts ∧ acceptScheme doc cfg req s = some (s, t) :=
  auth_sound_of_single cfg req hf.single hred h

/-- **C11 (no more)**: the wrapper answers 401 only when no alternative of the operation's
    own requirement is satisfied -/
theorem auth_complete (doc : Doc) (alts : List (List String)) (red : List (String × SchemeKind))
    (cfg : Cfg) (req : Req) (hf : InFragment doc alts) (hred : reduceReqs doc alts = .ok red)
    (h : (authOr (authRefs red) cfg req).2 = none) :
    alts.flatMap (altAccepted doc cfg req) = [] := by
  have h := authOr_complete _ cfg req h
  have hmem := mem_reduceReqs_single hf.single hred
  rw [List.flatMap_eq_nil_iff]
  intro alt halt
  obtain ⟨n, rfl⟩ := hf.single alt halt
  obtain ⟨r, hr⟩ := hf.supported n halt
  obtain ⟨k, hk, hrk⟩ := Option.bind_eq_some_iff.mp (schemeRef_eq doc n ▸ hr)
  -- `r` is in the wrapper: the only bearer scheme of the fragment gets the bearer slot
  have hin : r ∈ authRefs red := by
    refine mem_authRefs_of_mem (fun hkb n' hn' => ?_) ((hmem n k).mpr ⟨halt, hk⟩) hrk
    subst hkb
    obtain ⟨halt', hk'⟩ := (hmem n' .bearer).mp hn'
    exact hf.oneBearer n' n halt' halt hk' hk
  rw [altAccepted_singleton, acceptScheme_eq cfg req hr, h r hin]
  rfl

/-- an operation without a wrapper (`o.auth = []`; in particular one whose effective requirement list is
    empty: `reduce_nil`, `authRefs_nil`) is public: the handler runs without any authenticator being consulted -/
theorem public_reachable (leaf : LeafTable) (api : ApiM) (cfg : Cfg) (o : OpM) (r : RCtx)
    (h : o.auth = []) : secured leaf api cfg o r = opHandler leaf api cfg o r := by
  rw [secured_eq, if_pos h]

theorem reduce_nil (doc : Doc) : reduceReqs doc [] = .ok [] := rfl
theorem authRefs_nil : authRefs [] = [] := rfl

/-- when access is denied the handler is not invoked and the response is 401 -/
theorem denied_is_401 (leaf : LeafTable) (api : ApiM) (cfg : Cfg) (o : OpM) (r : RCtx)
    (hne : o.auth ≠ []) (h : (authOr o.auth cfg r.req).2 = none) :
    secured leaf api cfg o r = (authOr o.auth cfg r.req).1 ++ [Ev.final 401 "" "len=0"] := by
  rw [secured_eq, if_neg hne, h]

/-- the handler receives the request the accepting authenticator returned (its tag) -/
theorem handler_sees_returned_request (leaf : LeafTable) (api : ApiM) (cfg : Cfg) (o : OpM) (r : RCtx)
    (hne : o.auth ≠ []) (s t : String) (h : (authOr o.auth cfg r.req).2 = some (s, t)) :
    secured leaf api cfg o r =
      (authOr o.auth cfg r.req).1 ++ opHandler leaf api cfg o { r with tag := some (s ++ ":" ++ t) } := by
  rw [secured_eq, if_neg hne, h]

/-! Negations of the full statement on concrete witnesses (replayed on the real code; known
    findings KF-C11-arity and KF-C11-unsupported). -/

def docAB : Doc := { serverUrl := none, serverVars := [], paths := [], security := [],
                     schemes := [("a", .apiKeyHeader "X-A"), ("b", .apiKeyHeader "X-B"), ("o", .unsupported)] }
def reqA : Req := { method := "GET", path := "/", query := [], headers := [("X-A", ["good"])] }
def cfgAB : Cfg := { mws := 0, nf := false, spec := false, cors := false, auth := [("a", ["good"]), ("b", ["good"])] }

/-- a requirement `{a, b}` (both needed) is enforced as `a` alone: with only `a`'s credential the
    wrapper accepts while the reference demands both -/
theorem and_becomes_single :
    reduceReqs docAB [["a", "b"]] = .ok [("a", .apiKeyHeader "X-A")] ∧
    (authOr (authRefs [("a", .apiKeyHeader "X-A")]) cfgAB reqA).2 = some ("a", "good") ∧
    [["a", "b"]].flatMap (altAccepted docAB cfgAB reqA) = [] := by
  refine ⟨rfl, ?_, ?_⟩ <;> decide +kernel

/-- a requirement naming only a scheme of an unsupported kind yields no wrapper at all: the
    operation is served as public -/
theorem unsupported_is_public :
    reduceReqs docAB [["o"]] = .ok [("o", .unsupported)] ∧ authRefs [("o", .unsupported)] = [] ∧
    [["o"]].flatMap (altAccepted docAB cfgAB reqA) = [] := by
  refine ⟨rfl, ?_, ?_⟩ <;> decide +kernel

theorem authExactFull_false : ¬ AuthExactFull := by
  intro h
  have := (h docAB [["a", "b"]] _ cfgAB reqA and_becomes_single.1).mpr and_becomes_single.2.2
  rw [and_becomes_single.2.1] at this
  simp at this

/-- non-vacuity of the fragment -/
example : InFragment docAB [["a"], ["b"]] := by
  have hmem : ∀ {n : String}, [n] ∈ [["a"], ["b"]] → n = "a" ∨ n = "b" := by simp
  refine ⟨fun alt h => ?_, fun n h => ?_, fun n n' h _ hb => ?_⟩
  · obtain rfl | rfl : alt = ["a"] ∨ alt = ["b"] := by simpa using h
    all_goals exact ⟨_, rfl⟩
  · rcases hmem h with rfl | rfl <;> exact ⟨_, rfl⟩
  · rcases hmem h with rfl | rfl <;> exact absurd hb (by decide)

end Goag.Serve
