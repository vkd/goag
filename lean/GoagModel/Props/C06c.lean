import GoagModel.Props.C06b
/-
  C06 — "the chosen oneOf variant is preserved".  A value of a oneOf type is one alternative
  `alt i inner`; it is written as the encoding of `inner` under the `i`-th alternative's schema.

  * with a discriminator (`oneOf_disc_roundtrip`): if the written object carries, under the
    discriminator property, a JSON string that is one of the `i`-th alternative's mapping values and
    of no earlier alternative's, the decoder selects alternative `i` — and returns `alt i inner`
    whenever the alternative's own schema round-trips `inner` (for the schemas of `Props.C06b` that is
    the theorem `rt_roundtrip`);
  * by probing (`oneOf_probe_roundtrip`): if no earlier alternative accepts the written document
    (the domain restriction `OneOfUnambiguous` of DESIGN §11), the decoder returns `alt i inner`.

  The hypotheses on the written document are conditions on the SCHEMA's mapping / alternatives,
  judged per generated type by the run; what is proved is that nothing else can go wrong: no other
  variant is chosen, the index is not shifted, the inner value is not touched.
-/
namespace Goag.JsonM

/-- `off`: the index, in the whole oneOf, of the head of `alts` -/
theorem decodeDisc_selects (tbl : LeafDec) (alts : List (List String × Schema)) (kc : String) (j : J) (inner : Val) :
    ∀ (i off : Nat) (vals : List String) (s : Schema), alts[i]? = some (vals, s) →
      vals.any (fun v => goJsonString v == kc) = true →
      (∀ k, k < i → ∀ vals' s', alts[k]? = some (vals', s') → vals'.any (fun v => goJsonString v == kc) = false) →
      decode tbl s j = .ok inner →
      decodeDisc tbl alts kc j off = .ok (.alt (off + i) inner) := by
  induction alts with
  | nil => intro i off vals s h; cases h
  | cons a rest ih =>
    intro i off vals s h hsel hfirst hd
    cases i with
    | zero => cases h; rw [decodeDisc, if_pos hsel, hd]; rfl
    | succ k =>
      rw [decodeDisc, if_neg (Bool.eq_false_iff.mp (hfirst 0 (Nat.succ_pos k) a.1 a.2 rfl)),
        ih k (off + 1) vals s h hsel (fun k' hk' => hfirst (k' + 1) (Nat.succ_lt_succ hk')) hd,
        Nat.add_assoc, Nat.add_comm 1 k]

/-- **C06, discriminated oneOf**: the variant the value holds is the variant that comes back -/
theorem oneOf_disc_roundtrip (tbl : LeafDec) (alts : List (List String × Schema)) (d : String)
    (i : Nat) (vals : List String) (s : Schema) (inner : Val) (ms : List (String × J)) (c : String)
    (hi : alts[i]? = some (vals, s))
    (hj : toJ s inner = .ok (.obj ms))
    (hrt : decode tbl s (.obj ms) = .ok inner)
    (hk : lookupAssoc ms d = some (.raw c)) (hq : c.startsWith "\"" = true)
    (hsel : vals.any (fun v => goJsonString v == c) = true)
    (hfirst : ∀ k, k < i → ∀ vals' s', alts[k]? = some (vals', s') → vals'.any (fun v => goJsonString v == c) = false) :
    ∃ j, toJ (.oneOf alts (some d)) (.alt i inner) = .ok j ∧ decode tbl (.oneOf alts (some d)) j = .ok (.alt i inner) := by
  refine ⟨.obj ms, ?_, ?_⟩
  · simp only [toJ]
    rw [toJAlt_get alts i vals s inner hi, hj]
  · simp only [decode, hk, hq, if_true]
    have := decodeDisc_selects tbl alts c (.obj ms) inner i 0 vals s hi hsel hfirst hrt
    simpa using this

/-- what "no earlier alternative accepts the document" means for the probing decoder -/
def rejectedBy (tbl : LeafDec) (s : Schema) (j : J) : Prop :=
  ∃ e, decode tbl s j = .error e ∧ ∀ m, e ≠ .unmodelled m

theorem decodeProbe_cons_rejected {tbl : LeafDec} {a : List String × Schema} {rest : List (List String × Schema)}
    {j : J} (h : rejectedBy tbl a.2 j) (i : Nat) : decodeProbe tbl (a :: rest) j i = decodeProbe tbl rest j (i + 1) := by
  obtain ⟨e, he, hne⟩ := h
  rw [decodeProbe, he]
  cases e with
  | unmodelled m => exact absurd rfl (hne m)
  | _ => rfl

theorem decodeProbe_selects (tbl : LeafDec) (alts : List (List String × Schema)) (j : J) (inner : Val) :
    ∀ (i off : Nat) (vals : List String) (s : Schema), alts[i]? = some (vals, s) →
      (∀ k, k < i → ∀ vals' s', alts[k]? = some (vals', s') → rejectedBy tbl s' j) →
      decode tbl s j = .ok inner →
      decodeProbe tbl alts j off = .ok (.alt (off + i) inner) := by
  induction alts with
  | nil => intro i off vals s h; cases h
  | cons a rest ih =>
    intro i off vals s h hfirst hd
    cases i with
    | zero => cases h; rw [decodeProbe, hd]; rfl
    | succ k =>
      rw [decodeProbe_cons_rejected (hfirst 0 (Nat.succ_pos k) a.1 a.2 rfl),
        ih k (off + 1) vals s h (fun k' hk' => hfirst (k' + 1) (Nat.succ_lt_succ hk')) hd,
        Nat.add_assoc, Nat.add_comm 1 k]

/-- **C06, oneOf without discriminator** (unambiguous alternatives) -/
theorem oneOf_probe_roundtrip (tbl : LeafDec) (alts : List (List String × Schema))
    (i : Nat) (vals : List String) (s : Schema) (inner : Val) (j : J)
    (hi : alts[i]? = some (vals, s))
    (hj : toJ s inner = .ok j)
    (hrt : decode tbl s j = .ok inner)
    (hfirst : ∀ k, k < i → ∀ vals' s', alts[k]? = some (vals', s') → rejectedBy tbl s' j) :
    toJ (.oneOf alts none) (.alt i inner) = .ok j ∧ decode tbl (.oneOf alts none) j = .ok (.alt i inner) := by
  constructor
  · simp only [toJ]
    rw [toJAlt_get alts i vals s inner hi, hj]
  · simp only [decode]
    have := decodeProbe_selects tbl alts j inner i 0 vals s hi hfirst hrt
    simpa using this

/-- … instantiated with the tree theorem: an alternative in the fragment of `rt_roundtrip` needs no
    hypothesis about its own round trip -/
theorem oneOf_probe_roundtrip_rt (tbl : LeafDec) (alts : List (List String × Schema))
    (i : Nat) (vals : List String) (s : Schema) (inner : Val) (j : J)
    (hi : alts[i]? = some (vals, s)) (hrt : rt tbl s inner = true) (hj : toJ s inner = .ok j)
    (hfirst : ∀ k, k < i → ∀ vals' s', alts[k]? = some (vals', s') → rejectedBy tbl s' j) :
    decode tbl (.oneOf alts none) j = .ok (.alt i inner) :=
  (oneOf_probe_roundtrip tbl alts i vals s inner j hi hj (rt_roundtrip tbl s inner j hrt hj) hfirst).2

/-- the selection tests of `hsel` / `hfirst` on concrete mapping values that tell two alternatives apart -/
example : (["cat"].any (fun v => goJsonString v == "\"dog\"")) = false := by decide +kernel
example : (["dog", "hound"].any (fun v => goJsonString v == "\"dog\"")) = true := by decide +kernel

end Goag.JsonM
