import GoagModel.Props.C16
/-
  C14 — "exactly one response is written", on the model.

  `Serve.serve` is the model of the emitted `API.ServeHTTP` pipeline (spec-file shortcut, route
  lookup, not-found / CORS arms, middleware wrapping, security wrapper, operation handler that
  calls `Parse()`); it is total, so it has no panicking path, and it is tied to the generated
  code by the routing / security / parameter corpora (every request is served under `recover`
  with a counting ResponseWriter and compared with it).

  Theorem: for EVERY api plan, configuration (any number of middlewares, any authenticator
  table, with or without not-found / spec / CORS handlers) and request, the trace of `serve`
  contains exactly one response event — whichever arm answers, it answers once.

  What this does NOT cover (explored, not proved): a panic inside the generated Go code itself
  (nil maps, nil function values, index expressions) — this model has no partial operations; the
  slice expressions at computed positions are the checked-slicing model of `Props/C14b.lean`.
-/
namespace Goag.Serve

def finals (evs : List Ev) : Nat := (evs.filter isFinal).length

theorem finals_append (a b : List Ev) : finals (a ++ b) = finals a + finals b := by
  unfold finals
  rw [List.filter_append, List.length_append]

theorem finals_nil : finals [] = 0 := rfl

theorem finals_cons (e : Ev) (l : List Ev) : finals (e :: l) = (if isFinal e then 1 else 0) + finals l := by
  unfold finals
  rw [← List.countP_eq_length_filter, ← List.countP_eq_length_filter, List.countP_cons, Nat.add_comm]

theorem opHandler_one_final (leaf : LeafTable) (api : ApiM) (cfg : Cfg) (o : OpM) (r : RCtx) :
    finals (opHandler leaf api cfg o r) = 1 := by
  unfold finals
  rw [filter_opHandler (fun _ _ => rfl) (fun _ => rfl) (fun _ => rfl)]
  rfl

theorem secured_one_final (leaf : LeafTable) (api : ApiM) (cfg : Cfg) (o : OpM) (r : RCtx) :
    finals (secured leaf api cfg o r) = 1 := by
  obtain ⟨st, h⟩ := filter_secured (p := isFinal) (fun _ _ _ => rfl) (fun _ _ => rfl) (fun _ => rfl) (fun _ => rfl)
    leaf api cfg o r
  unfold finals
  rw [h]
  rfl

/-- **C14 (model).** Every request gets exactly one response. -/
theorem serve_exactly_one_response (leaf : LeafTable) (api : ApiM) (cfg : Cfg) (req : Req) :
    finals (serve leaf api cfg req) = 1 := by
  -- the arms of `serve`: the spec file, not found, a preflight, an operation
  fun_cases serve leaf api cfg req with
  | case1 => rfl
  | case2 =>
    unfold notFound
    split <;> rfl
  | case3 => rfl
  | case4 =>
    unfold finals
    rw [filter_wrapLoop (fun _ _ => rfl) (fun _ => rfl)]
    exact secured_one_final ..

end Goag.Serve
