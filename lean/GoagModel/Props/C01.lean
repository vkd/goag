import GoagModel.Naming
/-
  C01 — the part of "successful generation yields a compilable package" a Lean model can
  carry here: identifier derivation.  Full type-checking of emitted code is NOT modelled
  (no formal Go type system); it is decided per generated package by the Go compiler in the
  check (see DESIGN.md §4.1 for what that leaves unproved).
-/
namespace Goag.Naming

/-- `words [] cur` is what a split emits, so one equation serves both states of the accumulator -/
theorem words_cons (c : Char) (cs : Str) (cur : Option Str) :
    words (c :: cs) cur =
      if !isLetter c || isUpperL c then
        words [] cur ++ words cs (if isLetter c || (cur.isSome && isDigitC c) then some [c] else none)
      else words cs (some (c :: cur.getD [])) := by
  cases cur <;> rfl

theorem words_nil_forall {P : Char → Prop} {cur : Option Str} (hc : ∀ c ∈ cur.getD [], P c) :
    ∀ w ∈ words [] cur, ∀ c ∈ w, P c := by
  cases cur with
  | none => exact fun w hw => nomatch hw
  | some v => exact List.forall_mem_singleton.mpr fun c hcv => hc c (List.mem_reverse.mp hcv)

/-- a word is an emitted accumulator, and a character joins the accumulator only as a letter, or
    as a digit after a word has begun -/
theorem words_alnum (s : Str) (cur : Option Str) (hc : ∀ c ∈ cur.getD [], c.isAlphanum = true) :
    ∀ w ∈ words s cur, ∀ c ∈ w, c.isAlphanum = true := by
  induction s generalizing cur with
  | nil => exact words_nil_forall hc
  | cons c cs ih =>
    rw [words_cons]
    split
    next =>
      refine List.forall_mem_append.mpr ⟨words_nil_forall hc, ih _ ?_⟩
      split
      next hstart =>
        -- a letter, or a digit
        simp only [isLetter, isDigitC, Bool.or_eq_true, Bool.and_eq_true] at hstart
        exact List.forall_mem_singleton.mpr (Bool.or_eq_true_iff.mpr (hstart.imp_right And.right))
      next =>
        intro x hx
        cases hx
    next hsplit =>
      refine ih (some _) (List.forall_mem_cons.mpr ⟨?_, hc⟩)
      simp only [isLetter, Bool.or_eq_true, Bool.not_eq_true', not_or, Bool.not_eq_false] at hsplit
      exact Bool.or_eq_true_iff.mpr (.inl hsplit.1)

theorem toUpper_isAlpha {c : Char} (h : c.isAlpha = true) : c.toUpper.isAlpha = true := by
  unfold Char.toUpper
  split
  next hl =>
    -- `'a' ≤ c ≤ 'z'`, and `c + ('A' - 'a')` in `UInt32` is `c - 32`
    simp [Char.isAlpha, Char.isUpper, UInt32.le_iff_toNat_le] at hl ⊢
    omega
  next => exact h

theorem forall_mem_ite {α : Type} {P : α → Prop} {c : Prop} [Decidable c] {a b : List α}
    (ha : ∀ x ∈ a, P x) (hb : ∀ x ∈ b, P x) : ∀ x ∈ (if c then a else b), P x := by
  split <;> assumption

theorem publicWord_alnum (w : Str) (h : ∀ c ∈ w, c.isAlphanum = true) :
    ∀ c ∈ publicWord w, c.isAlphanum = true := by
  unfold publicWord
  -- the special words and the general case alike: no need to know which way the tests go
  refine forall_mem_ite (by decide +kernel) (forall_mem_ite (by decide +kernel) ?_)
  cases w with
  | nil => exact h
  | cons c cs =>
    refine List.forall_mem_cons.mpr ⟨?_, fun x hx => h x (List.mem_cons_of_mem _ hx)⟩
    split
    next hl => simp [Char.isAlphanum, toUpper_isAlpha hl]
    next => exact h c List.mem_cons_self

/-- no ASCII hypothesis: `isLetter` is `Char.isAlpha`, true of ASCII letters only, so every other
    character is dropped -/
theorem publicFieldName_isAlphanum (s : Str) : ∀ c ∈ publicFieldName s, c.isAlphanum = true := by
  intro c hc
  unfold publicFieldName at hc
  simp only [List.mem_flatten, List.mem_map] at hc
  obtain ⟨l, ⟨w, hw, rfl⟩, hcl⟩ := hc
  exact publicWord_alnum w (words_alnum s none (fun _ h => nomatch h) w hw) c hcl

/-- **C01 (identifier derivation)**: for every ASCII name, `PublicFieldName` yields only
    letters and digits — whatever punctuation, digits or case pattern the OpenAPI name has, the
    derived Go field / type name cannot break out of an identifier.  ASCII is the range in which
    the model mirrors the generator (`Naming.lean`); the proof does not use it -/
theorem publicFieldName_alnum (s : Str) (hs : ∀ c ∈ s, c.toNat < 128) :
    ∀ c ∈ publicFieldName s, c.isAlphanum = true :=
  publicFieldName_isAlphanum s

/-- the two derivations used for one header parameter (handler: `Title`, client:
    `PublicFieldName`) disagree on `X-Request-Uuid`: the generated client did not compile
    (repaired by the `fix:` commit 4aa6b75; a `fixed:` line of known_findings.json) -/
theorem handler_client_field_disagree :
    title "X-Request-Uuid".toList ≠ publicFieldName "X-Request-Uuid".toList := by
  decide +kernel

example : publicFieldName "user_id".toList = "UserID".toList := by decide +kernel
example : title "x-request-id".toList = "XRequestID".toList := by decide +kernel

end Goag.Naming
