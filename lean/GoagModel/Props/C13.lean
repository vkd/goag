import GoagModel.Embed
import GoagModel.Props.C16
/-
  C13, embedding half: the constant compiled into the generated package equals the input.
  `rep_step` is the one induction, for either quoting mode; `raw_char` / `str_char` say that
  the Go lexer reads each replacement text of that mode back as the character it stands for.
  Served half below.
-/
namespace Goag.Embed

theorem rep_cons (f : Char → Option Str) (c : Char) (s : Str) :
    rep f (c :: s) = (f c).getD [c] ++ rep f s := by
  simp [rep]

theorem rep_step (st : St) (f : Char → Option Str) (s : Str)
    (h : ∀ c ∈ s, ∀ acc tail, go st acc ((f c).getD [c] ++ tail) = go st (c :: acc) tail) (acc tail : Str) :
    go st acc (rep f s ++ tail) = go st (s.reverse ++ acc) tail := by
  induction s generalizing acc with
  | nil => rfl
  | cons c s ih =>
    rw [rep_cons, List.append_assoc, h c List.mem_cons_self, ih (fun c hc => h c (List.mem_cons_of_mem _ hc)),
      List.reverse_cons, List.append_assoc]
    rfl

theorem raw_char (c : Char) (hc0 : c ≠ Char.ofNat 0) (acc tail : Str) :
    go .raw acc ((fRaw c).getD [c] ++ tail) = go .raw (c :: acc) tail := by
  by_cases h1 : c = '`'
  · subst h1
    simp [fRaw, go, illegal, bom]
  · by_cases h2 : c = '\r'
    · subst h2
      simp [fRaw, go, illegal, simpleEsc, bom]
    · by_cases h3 : c = bom
      · subst h3
        simp [fRaw, go, illegal, simpleEsc, hexVal, bom, Nat.isValidChar]
      · simp [fRaw, h1, h2, h3, go, illegal, hc0]

theorem str_char (c : Char) (hc0 : c ≠ Char.ofNat 0) (hcn : c ≠ '\n') (acc tail : Str) :
    go .str acc ((fStr c).getD [c] ++ tail) = go .str (c :: acc) tail := by
  by_cases h1 : c = '\\'
  · subst h1
    simp [fStr, go, illegal, simpleEsc, bom]
  · by_cases h2 : c = '"'
    · subst h2
      simp [fStr, go, illegal, simpleEsc, bom]
    · by_cases h3 : c = bom
      · subst h3
        simp [fStr, go, illegal, simpleEsc, hexVal, bom, Nat.isValidChar]
      · simp [fStr, h1, h2, h3, go, illegal, hc0, hcn]

theorem raw_step (s : Str) (h0 : Char.ofNat 0 ∉ s) (acc tail : Str) :
    go .raw acc (rep fRaw s ++ tail) = go .raw (s.reverse ++ acc) tail :=
  rep_step .raw fRaw s (fun c hc => raw_char c (fun h => h0 (h ▸ hc))) acc tail

theorem str_step (s : Str) (h0 : Char.ofNat 0 ∉ s) (hn : '\n' ∉ s) (acc tail : Str) :
    go .str acc (rep fStr s ++ tail) = go .str (s.reverse ++ acc) tail :=
  rep_step .str fStr s (fun c hc => str_char c (fun h => h0 (h ▸ hc)) (fun h => hn (h ▸ hc))) acc tail

/-- **C13 (embedding)**: for every NUL-free content, the Go constant expression written
    into `spec_file.go` evaluates to exactly that content. -/
theorem embed_roundtrip (s : Str) (h0 : Char.ofNat 0 ∉ s) : goEval (encodeRaw s) = some s := by
  unfold encodeRaw goEval
  split
  · have := raw_step s h0 [] ['`']
    simp [go, illegal, bom] at this ⊢
    exact this
  next hn =>
    have := str_step s h0 hn [] ['"']
    simp [go, illegal, bom] at this ⊢
    exact this

/-- non-vacuity: a content with every special character satisfies the hypothesis -/
example : Char.ofNat 0 ∉ (bom :: "a\r\n\\b\"`c$".toList) := by decide +kernel

/-! Negative results for the encoder of the pinned commit (witnesses replayed on the real
    code before the `fix:` commit; see known_findings.json). -/

theorem old_backslash_oneline_differs :
    goEval (encodeOld "a\\\\b".toList) = some "a\\b".toList := by decide +kernel
theorem old_bad_escape_oneline : goEval (encodeOld "\\d".toList) = none := by decide +kernel
theorem old_crlf_drops_cr : goEval (encodeOld "a\r\nb".toList) = some "a\nb".toList := by decide +kernel
theorem old_bom_breaks : goEval (encodeOld (bom :: "a\nb".toList)) = none := by decide +kernel

end Goag.Embed

namespace Goag.Serve

def isSpecFinal : Ev → Bool
  | .final _ _ "SPECFILE" => true
  | _ => false

/-- **C13 (served)**: with the spec-file handler installed, a request for
    `<base path>/<spec name>` is answered by that handler alone — whatever the method, the
    routes and the middlewares installed (no other event occurs) -/
theorem spec_served (leaf : LeafTable) (api : ApiM) (cfg : Cfg) (req : Req)
    (hi : cfg.spec = true) (hp : req.path = api.base ++ "/" ++ api.specName) :
    serve leaf api cfg req = [Ev.final 200 ("application/" ++ specExt api.specName) "SPECFILE"] := by
  unfold serve
  simp [hi, hp]

/-- **C13 (served, only when installed)**: the spec body is served for no other request and
    never without the handler installed -/
theorem spec_only_when_installed (leaf : LeafTable) (api : ApiM) (cfg : Cfg) (req : Req)
    (h : (cfg.spec && req.path == api.base ++ "/" ++ api.specName) = false) :
    ∀ e ∈ serve leaf api cfg req, isSpecFinal e = false := by
  apply forall_false_of_filter
  -- the arms of `serve`: the spec file, not found, a preflight, an operation
  fun_cases serve leaf api cfg req with
  | case1 hspec => exact absurd hspec (h ▸ Bool.false_ne_true)
  | case2 =>
    unfold notFound
    split <;> rfl
  | case3 => rfl
  | case4 _ o _ =>
    obtain ⟨st, hsec⟩ := filter_secured (p := isSpecFinal) (fun _ _ _ => rfl) (fun _ _ => rfl) (fun _ => rfl)
      (fun _ => rfl) leaf api cfg o { req := req, tpl := some o.tpl }
    rw [filter_wrapLoop (fun _ _ => rfl) (fun _ => rfl), hsec]
    rfl

end Goag.Serve
