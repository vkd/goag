import GoagModel.RouterLemmas
/-
  C03 — routing equals OpenAPI path matching under the server base path.

  `routeGo (build items) base p pick` is the model of the emitted router (route tree built by
  `NewRouter` + the `route<Node>` functions); `specRoute items base p pick` is the reference:
  strip the base path, split the rest at every '/', keep the path items whose template matches
  segment for segment and which answer the method (`pick`), take the literal-first maximum.
  `pick` is arbitrary (any method set, CORS arm or not), `p` is any string.
-/
namespace Goag.Router
variable {α β : Type}

/-- well-formed template set: pairwise non-equivalent templates (distinct key lists) -/
def WF (items : List (Str × α)) : Prop := (items.map (fun it => keysOf it.1)).Nodup

/-- **C03**: for every well-formed template set, every base path, every request path (any
    string) and every method selection, the generated router dispatches exactly as OpenAPI
    matching with literal preference prescribes — in particular not-found iff no template
    matches with the method. -/
theorem route_refines_spec (items : List (Str × α)) (hwf : WF items) (base p : Str) (pick : α → Option β) :
    routeGo (build items) base p pick = specRoute items base p pick := by
  unfold routeGo specRoute
  cases stripBase base p with
  | none => rfl
  | some rest =>
    simp only
    cases segmentsOf rest with
    | none => rfl
    | some segs => exact eval_eq_spec items hwf segs pick

/-- a request that is dispatched is dispatched to a stored path item whose template matches
    the request segment for segment (so the template reported to middlewares is that item's) -/
theorem route_reports_matching_item (items : List (Str × α)) (hwf : WF items) (base p : Str)
    (pick : α → Option β) (b : β) (h : routeGo (build items) base p pick = some b) :
    ∃ it ∈ items, ∃ rest segs, stripBase base p = some rest ∧ segmentsOf rest = some segs ∧
      tmatch (keysOf it.1) segs = true ∧ pick it.2 = some b := by
  unfold routeGo at h
  split at h
  · cases h
  next rest hs =>
    split at h
    · cases h
    next segs hg =>
      obtain ⟨ks, a, hh, hm, hp, -⟩ := eval_sound pick _ _ b h
      obtain ⟨it, hit, rfl, rfl⟩ := (build_has items hwf _ _).mp hh
      exact ⟨it, hit, rest, segs, hs, hg, hm, hp⟩

/-- not found iff nothing matches: the router answers `none` exactly when no stored template matches
    the request with a path item that answers the method -/
theorem not_found_iff_no_match (items : List (Str × α)) (hwf : WF items) (base p : Str)
    (pick : α → Option β) (rest : Str) (segs : List Str)
    (hs : stripBase base p = some rest) (hg : segmentsOf rest = some segs) :
    routeGo (build items) base p pick = none ↔
      ∀ it ∈ items, tmatch (keysOf it.1) segs = true → pick it.2 = none := by
  simp only [routeGo, hs, hg, eval_eq_none_iff, build_has items hwf]
  constructor
  · intro h it hit
    exact h _ _ ⟨it, hit, rfl, rfl⟩
  · rintro h _ _ ⟨it, hit, rfl, rfl⟩
    exact h it hit

/-- a trailing slash on the request path is significant: "/a" and "/a/" are different
    segment lists -/
theorem trailing_slash_significant :
    segmentsOf "/a".toList ≠ segmentsOf "/a/".toList := by decide +kernel

/-- a request path that does not start with '/' below the base path is never dispatched -/
theorem no_leading_slash_not_found (root : Node α) (base p rest : Str) (pick : α → Option β)
    (hs : stripBase base p = some rest) (hr : rest.head? ≠ some '/') :
    routeGo root base p pick = none := by
  have : segmentsOf rest = none := by
    unfold segmentsOf
    split
    · exact absurd rfl hr
    · rfl
  simp only [routeGo, hs, this]

/-- non-vacuity: a concrete well-formed set with literal/variable overlap, routed both ways -/
example : WF [("/a/b".toList, 1), ("/a/{x}".toList, 2), ("/{y}/b".toList, 3), ("/a/".toList, 4)] := by unfold WF; decide +kernel
example : routeGo (build [("/a/b".toList, 1), ("/a/{x}".toList, 2), ("/{y}/b".toList, 3)]) "/api".toList "/api/a/b".toList
    (fun n => if n = 1 then none else some n) = some 2 := by
  rw [route_refines_spec _ (by unfold WF; decide +kernel)]
  decide +kernel

end Goag.Router
