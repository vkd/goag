import Lean.Data.Json
import GoagModel.Naming
import GoagModel.JsonRead
import GoagModel.Serve
/-
  C02 / C10: which response types goag emits, which of them implement an operation's response
  interface, what writing them emits, and what the generated client's status switch does
  (generator/handler.go NewHandlerResponse, generator/components.go NewComponents,
  generator/operation.go NewOperationName, file_components.gotmpl ResponseComponent,
  file_client.gotmpl ClientOperation).
-/
namespace Goag.Resp
open Lean Goag.JsonM

structure RespDef where
  ct : String              -- "" | application/json | other media type
  headers : List String    -- declared header names
  body : String            -- none | json | raw
deriving Repr, DecidableEq, Inhabited

inductive RespUse where
  | inline (status : String) (d : RespDef)
  | comp (status : String) (name : String)     -- $ref to components.responses.<name>
deriving Repr, Inhabited

structure OpR where
  method : String      -- "GET"
  path : String
  opId : String
  uses : List RespUse  -- sorted by status key ("200" < "default")
deriving Repr, Inhabited

structure DocR where
  ops : List OpR
  /-- components.responses: name ↦ alias target or definition -/
  comps : List (String × (String ⊕ RespDef))
deriving Inhabited

/-! ### reader -/

def readRespDef (r : Json) : RespDef :=
  let content := ((jfield? r "content").map jobj).getD []
  let hdrs := (((jfield? r "headers").map jobj).getD []).map (·.1)
  -- NewResponse: application/json wins the body kind; any other media type sets the content type
  let hasJson := content.any (·.1 == "application/json")
  let other := (content.filter (·.1 != "application/json")).map (·.1)
  if hasJson then { ct := "application/json", headers := hdrs, body := "json" }
  else match other.getLast? with
    | some mt => { ct := mt, headers := hdrs, body := "raw" }
    | none => { ct := "", headers := hdrs, body := "none" }

def respRef? (r : Json) : Option String :=
  (jstr? r "$ref").bind (fun s =>
    let pre := "#/components/responses/"
    if s.startsWith pre then some (s.drop pre.length).toString else none)

def readDocR (root : Json) : DocR :=
  let comps := (((jfield? root "components").bind (jfield? · "responses")).map jobj).getD []
  let paths := ((jfield? root "paths").map jobj).getD []
  let ops := paths.flatMap (fun (p, pi) =>
    Spec.httpMethods.filterMap (fun m =>
      (jfield? pi m).map (fun o =>
        let rs := ((jfield? o "responses").map jobj).getD []
        { method := m.toUpper, path := p, opId := (jstr? o "operationId").getD "",
          uses := rs.map (fun (st, r) => match respRef? r with
            | some n => RespUse.comp st n
            | none => RespUse.inline st (readRespDef r)) : OpR })))
  { ops := ops,
    comps := comps.map (fun (n, r) => match respRef? r with
      | some t => (n, Sum.inl t)
      | none => (n, Sum.inr (readRespDef r))) }

/-- follow aliases to the defining component (fuel = number of components) -/
def rootOf (d : DocR) : Nat → String → Option (String × RespDef)
  | 0, _ => none
  | fuel + 1, n =>
    match d.comps.find? (·.1 == n) with
    | some (_, Sum.inl t) => rootOf d fuel t
    | some (_, Sum.inr def_) => some (n, def_)
    | none => none

def root (d : DocR) (n : String) : Option (String × RespDef) := rootOf d (d.comps.length + 1) n

/-! ### names -/

def methodTitle (m : String) : String :=
  match m.toList with
  | [] => ""
  | c :: cs => String.ofList (c :: cs.map Char.toLower)

/-- `NewOperationName` -/
def operationName (o : OpR) : String :=
  if o.opId != "" then String.ofList (Naming.publicFieldName o.opId.toList) else
  let dirs := match o.path.splitOn "/" with | _ :: ds => ds | [] => []
  let parts := dirs.map (fun d =>
    let d' := if d.startsWith "{" && d.endsWith "}" then ((d.drop 1).dropEnd 1).toString else d
    String.ofList (Naming.title d'.toList))
  let rt := if dirs.length > 1 && dirs.getLast? == some "" then "RT" else ""
  methodTitle o.method ++ String.join parts ++ rt

/-- `strings.Title(status)`: "default" ↦ "Default", numeric statuses unchanged -/
def statusTitle (s : String) : String := if s == "default" then "Default" else s

def inlineTypeName (o : OpR) (status : String) (d : RespDef) : String :=
  operationName o ++ "Response" ++ statusTitle status ++ (if d.body == "json" then "JSON" else "")

/-! ### C02: the documented response types of an operation -/

/-- names of the non-alias Go types that the spec documents as responses of `o` -/
def documentedTypes (d : DocR) (o : OpR) : List String :=
  o.uses.filterMap (fun u => match u with
    | .inline st def_ => some (inlineTypeName o st def_)
    | .comp _ n => (root d n).map (fun r => r.1 ++ "Response"))

/-- model of the emitted types: every response type with the operations (by name) whose
    `write<Op>` method it carries (inline: its own operation; component: its UsedIn list) -/
structure RespType where
  name : String
  methods : List String     -- operation names; the Go method is write<OperationName>
deriving Repr, Inhabited

/-- does operation `o` use (through any alias) the defining component `n`? -/
def usesRoot (d : DocR) (o : OpR) (n : String) : Bool :=
  o.uses.any (fun u => match u with
    | .comp _ m => (root d m).map (·.1) == some n
    | _ => false)

def inlineTypes (d : DocR) : List RespType :=
  d.ops.flatMap (fun o => o.uses.filterMap (fun u => match u with
    | .inline st def_ => some { name := inlineTypeName o st def_, methods := [operationName o] }
    | .comp _ _ => none))

def compTypes (d : DocR) : List RespType :=
  d.comps.filterMap (fun (n, c) => match c with
    | Sum.inr _ =>
      some { name := n ++ "Response",
             methods := d.ops.filterMap (fun o => if usesRoot d o n then some (operationName o) else none) }
    | Sum.inl _ => none)

def emittedTypes (d : DocR) : List RespType := inlineTypes d ++ compTypes d

/-- Go: `T` satisfies the one-method interface `<Op>Response` iff it has that method -/
def implementers (d : DocR) (o : OpR) : List String :=
  ((emittedTypes d).filter (fun t => t.methods.contains (operationName o))).map (·.name)

/-! ### C02: what writing a documented response emits -/

structure Written where
  ctor : String
  status : String       -- a number, or "code" for the caller-supplied code of a default response
  ct : String
  headers : List String -- canonical header keys, sorted
  body : String
deriving Repr, DecidableEq, Inhabited

def sortStrings (l : List String) : List String := (l.toArray.qsort (· < ·)).toList

def writtenOf (ctor status : String) (def_ : RespDef) : Written :=
  { ctor := ctor, status := if status == "default" then "code" else status, ct := def_.ct,
    headers := sortStrings ((def_.headers.map Serve.canonKey).eraseDups), body := def_.body }

/-- every constructor whose result implements the operation's interface, with what it writes:
    inline responses, and every component name (alias or not) whose root the operation uses -/
def expectedWritten (d : DocR) (o : OpR) : List Written :=
  let inl := o.uses.filterMap (fun u => match u with
    | .inline st def_ => some (writtenOf ("New" ++ inlineTypeName o st def_) st def_)
    | .comp _ _ => none)
  let viaComp := d.comps.filterMap (fun (n, _) =>
    match root d n with
    | none => none
    | some (rn, def_) =>
      (o.uses.findSome? (fun u => match u with
        | .comp st m => if (root d m).map (·.1) == some rn then some st else none
        | _ => none)).map (fun st => writtenOf ("New" ++ n ++ "Response") st def_))
  inl ++ viaComp

/-! ### rejections of `specification.ParseSwagger` / `NewOperation` -/

def rootName (d : DocR) (n : String) : String := ((root d n).map (·.1)).getD n

/-- goag refuses a spec in which one shared response (through any alias) is used as `default`
    somewhere and under a numbered status somewhere else, or twice by one operation -/
def rejects (d : DocR) : Option String :=
  let usesOf (o : OpR) : List (String × String) := o.uses.filterMap (fun u => match u with
    | .comp st n => some (st, rootName d n)
    | _ => none)
  let all := d.ops.flatMap usesOf
  let mixed := all.any (fun (st, r) => st == "default" && all.any (fun (st2, r2) => r2 == r && st2 != "default"))
  let twice := d.ops.any (fun o =>
    let rs := (usesOf o).map (·.2)
    rs.eraseDups.length != rs.length)
  if twice then some "same response used several times by one operation"
  else if mixed then some "shared response used as default and as a numbered status"
  else none

/-! ### C10: the client's status switch -/

inductive Arm where
  | documented (status : Nat)
  | default
  | notImplemented
deriving Repr, DecidableEq, Inhabited

/-- `switch resp.StatusCode`: one case per numbered status, then the default arm -/
def clientArm (numbered : List Nat) (hasDefault : Bool) (st : Nat) : Arm :=
  if numbered.contains st then .documented st else if hasDefault then .default else .notImplemented

def numberedOf (o : OpR) : List Nat :=
  o.uses.filterMap (fun u => match u with
    | .inline st _ => st.toNat?
    | .comp st _ => st.toNat?)

def hasDefault (o : OpR) : Bool :=
  o.uses.any (fun u => match u with | .inline st _ => st == "default" | .comp st _ => st == "default")

end Goag.Resp
