import GoagModel.Ref
import GoagModel.ServeLemmas
/-
  Helper lemmas for C11 and C17: `authMiddlewareOr` (soundness / completeness over its
  argument list), the reference's per-scheme test against the wrapper's, what `NewRouter` puts
  into that argument list, what `NewSecurityRequirements` keeps.
-/
namespace Goag.Serve

open Goag.Spec Goag.Ref

/-- `authMiddlewareOr` soundness: the handler only runs with a request returned by an
    authenticator of one of the wrapper's schemes that accepted the request's own credential -/
theorem authOr_sound (refs : List AuthRef) (cfg : Cfg) (req : Req) (s t : String)
    (h : (authOr refs cfg req).2 = some (s, t)) : ∃ r ∈ refs, accepted cfg req r = some (s, t) := by
  rw [authOr_result] at h
  exact List.exists_of_findSome?_eq_some h

/-- `authMiddlewareOr` completeness: 401 only when no scheme of the wrapper accepts -/
theorem authOr_complete (refs : List AuthRef) (cfg : Cfg) (req : Req)
    (h : (authOr refs cfg req).2 = none) : ∀ r ∈ refs, accepted cfg req r = none := by
  rw [authOr_result] at h
  exact List.findSome?_eq_none_iff.mp h

def refOfKind (n : String) : SchemeKind → Option AuthRef
  | .bearer => some (.bearer n)
  | .apiKeyHeader h => some (.headerKey n h)
  | .apiKeyQuery q => some (.queryKey n q)
  | .unsupported => none

theorem schemeRef_eq (doc : Doc) (n : String) : schemeRef doc n = (schemeOf doc n).bind (refOfKind n) := by
  unfold schemeRef
  cases schemeOf doc n with
  | none => rfl
  | some k => cases k <;> rfl

theorem refOfKind_scheme {n : String} {k : SchemeKind} {r : AuthRef} (h : refOfKind n k = some r) : r.scheme = n := by
  cases k <;> cases h <;> rfl

theorem acceptScheme_eq {doc : Doc} (cfg : Cfg) (req : Req) {n : String} {r : AuthRef} (hr : schemeRef doc n = some r) :
    acceptScheme doc cfg req n = accepted cfg req r := by
  have hs : r.scheme = n := by
    rw [schemeRef_eq] at hr
    obtain ⟨k, _, hk⟩ := Option.bind_eq_some_iff.mp hr
    exact refOfKind_scheme hk
  unfold acceptScheme accepted
  rw [hr, hs]
  rfl

theorem altAccepted_singleton (doc : Doc) (cfg : Cfg) (req : Req) (n : String) :
    altAccepted doc cfg req [n] = (acceptScheme doc cfg req n).toList := by
  unfold altAccepted
  rw [List.filterMap_cons, List.all_cons]
  cases acceptScheme doc cfg req n <;> rfl

/-- membership in the wrapper built by `NewRouter` -/
theorem mem_authRefs {red : List (String × SchemeKind)} {r : AuthRef} (h : r ∈ authRefs red) :
    ∃ n k, (n, k) ∈ red ∧ refOfKind n k = some r := by
  unfold authRefs at h
  rcases List.mem_append.mp h with h | h
  · obtain ⟨⟨n, k⟩, hm, hk⟩ := List.mem_filterMap.mp (List.mem_of_mem_take h)
    cases k <;> cases hk
    exact ⟨n, _, hm, rfl⟩
  · obtain ⟨⟨n, k⟩, hm, hk⟩ := List.mem_filterMap.mp h
    cases k <;> cases hk <;> exact ⟨n, _, hm, rfl⟩

theorem mem_take_one {α : Type} {l : List α} {b : α} (hb : b ∈ l) (hall : ∀ x ∈ l, x = b) : b ∈ l.take 1 := by
  cases l with
  | nil => cases hb
  | cons x tl =>
    rw [hall x List.mem_cons_self]
    exact List.mem_cons_self

/-- `hb`: `NewRouter` has one `SecurityBearerAuth` slot, and the first bearer scheme takes it -/
theorem mem_authRefs_of_mem {red : List (String × SchemeKind)} {n : String} {k : SchemeKind} {r : AuthRef}
    (hb : k = .bearer → ∀ n', (n', SchemeKind.bearer) ∈ red → n' = n)
    (hm : (n, k) ∈ red) (hr : refOfKind n k = some r) : r ∈ authRefs red := by
  unfold authRefs
  cases k <;> cases hr
  case bearer =>
    refine List.mem_append_left _ (mem_take_one (List.mem_filterMap.mpr ⟨_, hm, rfl⟩) ?_)
    intro x hx
    obtain ⟨⟨n', k'⟩, hm', hx'⟩ := List.mem_filterMap.mp hx
    cases k' <;> cases hx'
    rw [hb rfl n' hm']
  all_goals exact List.mem_append_right _ (List.mem_filterMap.mpr ⟨_, hm, rfl⟩)

/-- the `single` clause of `InFragment` (Props/C11) on its own: all that the soundness half of C11 and C17 need -/
def InFragmentSingle (alts : List (List String)) : Prop := ∀ alt ∈ alts, ∃ n, alt = [n]

theorem mem_reduceReqs {doc : Doc} {alts : List (List String)} {red : List (String × SchemeKind)}
    (h : reduceReqs doc alts = .ok red) (n : String) (k : SchemeKind) :
    (n, k) ∈ red ↔ n ∈ alts.filterMap List.head? ∧ schemeOf doc n = some k := by
  -- `reduceReqs`: no alternative left, an empty one (dropped), two errors, an alternative whose first scheme is kept
  fun_induction reduceReqs doc alts generalizing red with
  | case1 =>
    cases h
    constructor <;> nofun
  | case2 rest ih => exact ih h
  | case3 | case4 => cases h
  | case5 m ms rest k0 hk0 red' hr ih =>
    cases h
    show _ ↔ n ∈ m :: _ ∧ _
    rw [List.mem_cons, List.mem_cons, ih hr, Prod.mk.injEq, or_and_right]
    -- the two sides differ in the head only
    refine or_congr_left (and_congr_right fun hn => ?_)
    rw [hn, hk0, Option.some.injEq, eq_comm]

theorem mem_reduceReqs_single {doc : Doc} {alts : List (List String)} {red : List (String × SchemeKind)}
    (hs : InFragmentSingle alts) (hred : reduceReqs doc alts = .ok red) (n : String) (k : SchemeKind) :
    (n, k) ∈ red ↔ [n] ∈ alts ∧ schemeOf doc n = some k := by
  rw [mem_reduceReqs hred, List.mem_filterMap]
  constructor
  · rintro ⟨⟨alt, halt, hhead⟩, hk⟩
    obtain ⟨n', rfl⟩ := hs alt halt
    cases hhead
    exact ⟨halt, hk⟩
  · rintro ⟨halt, hk⟩
    exact ⟨⟨[n], halt, rfl⟩, hk⟩

end Goag.Serve
