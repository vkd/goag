import GoagModel.Basic
import GoagModel.JsonRead
/-
  C06 / C07 / C08: structural model of the JSON codec goag emits per schema
  (generator/file_components.gotmpl SchemaComponent: MarshalJSON / marshalJSONInnerBody,
  UnmarshalJSON / unmarshalJSONInnerBody; types.gotmpl / schema.gotmpl wrappers).

  Leaves (strings, numbers, booleans, times, untyped values) are opaque: a leaf value carries
  its canonical JSON text and its canonical dump text as produced by the Go library
  (`encoding/json`, `time`) — library behaviour is a parameter, supplied by the harness.
-/
namespace Goag.JsonM

inductive Kind where
  | str | int | int32 | int64 | num | f32 | bool | time
deriving DecidableEq, Repr, Inhabited

def Kind.tag : Kind → String
  | .str => "str" | .int => "int" | .int32 => "int32" | .int64 => "int64"
  | .num => "num" | .f32 => "f32" | .bool => "bool" | .time => "time"

/-- schema trees after `$ref` resolution (non-recursive). `allOf` members remember whether they
    were given by reference (embedded struct) or inline (flattened fields). `oneOf` alternatives
    carry, when a discriminator is declared, the discriminator values that select them. -/
inductive Schema where
  | prim (k : Kind) (nullable : Bool)
  | any
  | arr (items : Schema) (nullable : Bool)
  | obj (fields : List (String × Bool × Schema)) (addl : Option Schema) (nullable : Bool)
  | allOf (members : List (Bool × Schema))
  | oneOf (alts : List (List String × Schema)) (disc : Option String)
deriving Repr, Inhabited

/-- values of the generated Go types, structurally -/
inductive Val where
  | leaf (canon : String) (dump : String)
  | null
  | unset
  | arr (vs : List Val)
  | nilarr
  | obj (fs : List Val) (addl : Option (List (String × Val)))
  | alt (i : Nat) (v : Val)
deriving Repr, Inhabited

/-- JSON values with opaque leaves (canonical text) -/
inductive J where
  | raw (canon : String)
  | null
  | arr (js : List J)
  | obj (ms : List (String × J))
deriving Repr, Inhabited

/-! ### Go's JSON string encoding (encoding/json with HTML escaping), for object keys -/

def hex4 (n : Nat) : String :=
  String.ofList [hexDigit (n / 4096 % 16), hexDigit (n / 256 % 16), hexDigit (n / 16 % 16), hexDigit (n % 16)]

def goJsonChar (c : Char) : String :=
  if c = '"' then "\\\"" else if c = '\\' then "\\\\"
  else if c = '\n' then "\\n" else if c = '\r' then "\\r" else if c = '\t' then "\\t"
  else if c = '\x08' then "\\b" else if c = '\x0c' then "\\f"
  else if c.toNat < 32 || c = '<' || c = '>' || c = '&' || c.toNat = 0x2028 || c.toNat = 0x2029 then "\\u" ++ hex4 c.toNat
  else String.singleton c

def goJsonString (s : String) : String := "\"" ++ String.join (s.toList.map goJsonChar) ++ "\""

/-! ### canonical text of a J (sorted keys) -/

def insertSorted (kv : String × String) : List (String × String) → List (String × String)
  | [] => [kv]
  | x :: xs => if kv.1 < x.1 then kv :: x :: xs else x :: insertSorted kv xs

mutual
def J.canon : J → String
  | .raw c => c
  | .null => "null"
  | .arr js => "[" ++ ",".intercalate (canonList js) ++ "]"
  | .obj ms => "{" ++ ",".intercalate (((canonMembers ms).foldr insertSorted []).map (fun kv => goJsonString kv.1 ++ ":" ++ kv.2)) ++ "}"
def canonList : List J → List String
  | [] => []
  | j :: js => j.canon :: canonList js
def canonMembers : List (String × J) → List (String × String)
  | [] => []
  | (k, j) :: ms => (k, j.canon) :: canonMembers ms
end

/-! ### value → JSON value (what the generated MarshalJSON denotes) -/

/-- does a member list declare composite-level additionalProperties? (`newSchemaType`, allOf: an
    inline member's additionalProperties become the composite's; the last such member wins) -/
def laterAddl : List (Bool × Schema) → Bool
  | [] => false
  | (false, .obj _ (some _) _) :: _ => true
  | _ :: ms => laterAddl ms

mutual
def toJ : Schema → Val → Except String J
  | .prim _ nullable, v =>
    match v with
    | .leaf c _ => .ok (.raw c)
    | .null => if nullable then .ok .null else .error "null for non-nullable"
    | _ => .error "prim: bad value"
  | .any, v =>
    match v with
    | .leaf c _ => .ok (.raw c)
    | _ => .error "any: bad value"
  | .arr items nullable, v =>
    match v with
    | .arr vs => (toJList items vs).map J.arr
    | .nilarr => .ok (.arr [])     -- Slice_RenderToBaseType: nil becomes an empty array
    | .null => if nullable then .ok .null else .error "null for non-nullable"
    | _ => .error "arr: bad value"
  | .obj fields addl nullable, v =>
    match v with
    | .obj fs ax =>
      match toJFields fields fs with
      | .error e => .error e
      | .ok (ms, rest) =>
        if !rest.isEmpty then .error "obj: too many field values" else
        match addl, ax with
        | some a, some xs => (toJAddl a xs).map (fun xm => J.obj (ms ++ xm))
        | _, none => .ok (.obj ms)
        | none, some _ => .error "obj: additional values without additionalProperties"
    | .null => if nullable then .ok .null else .error "null for non-nullable"
    | _ => .error "obj: bad value"
  | .allOf members, v =>
    match v with
    | .obj fs ax =>
      match toJMembers members fs with
      | .error e => .error e
      | .ok ms =>
        match ax with
        | none => .ok (.obj ms)
        | some xs => (toJCompAddl members xs).map (fun xm => J.obj (ms ++ xm))
    | _ => .error "allOf: bad value"
  | .oneOf alts _, v =>
    match v with
    | .alt i inner => toJAlt alts i inner
    | _ => .error "oneOf: bad value"
def toJAlt : List (List String × Schema) → Nat → Val → Except String J
  | [], _, _ => .error "oneOf: bad index"
  | (_, s) :: _, 0, v => toJ s v
  | _ :: rest, n + 1, v => toJAlt rest n v
def toJList : Schema → List Val → Except String (List J)
  | _, [] => .ok []
  | s, v :: vs =>
    match toJ s v, toJList s vs with
    | .ok j, .ok js => .ok (j :: js)
    | .error e, _ => .error e
    | _, .error e => .error e
/-- consume one value per declared field; returns the members written and the unused values -/
def toJFields : List (String × Bool × Schema) → List Val → Except String (List (String × J) × List Val)
  | [], vs => .ok ([], vs)
  | _ :: _, [] => .error "obj: too few field values"
  | (name, req, s) :: fs, v :: vs =>
    match v with
    | .unset =>
      if req then .error "unset required field" else toJFields fs vs
    | _ =>
      match toJ s v, toJFields fs vs with
      | .ok j, .ok (ms, rest) => .ok ((name, j) :: ms, rest)
      | .error e, _ => .error e
      | _, .error e => .error e
def toJAddl : Schema → List (String × Val) → Except String (List (String × J))
  | _, [] => .ok []
  | s, (k, v) :: xs =>
    match toJ s v, toJAddl s xs with
    | .ok j, .ok ms => .ok ((k, j) :: ms)
    | .error e, _ => .error e
    | _, .error e => .error e
/-- allOf: a member given by reference is one embedded struct value; an inline member's
    fields are flattened into the outer struct -/
def toJMembers : List (Bool × Schema) → List Val → Except String (List (String × J))
  | [], [] => .ok []
  | [], _ :: _ => .error "allOf: too many values"
  | (true, s) :: ms, v :: vs =>
    match toJ s v, toJMembers ms vs with
    | .ok (.obj mm), .ok rest => .ok (mm ++ rest)
    | .ok _, .ok _ => .error "allOf: member is not an object"
    | .error e, _ => .error e
    | _, .error e => .error e
  | (true, _) :: _, [] => .error "allOf: too few values"
  | (false, .obj fields _ _) :: ms, vs =>
    match toJFields fields vs with
    | .error e => .error e
    | .ok (mm, rest) =>
      match toJMembers ms rest with
      | .ok more => .ok (mm ++ more)
      | .error e => .error e
  | (false, _) :: _, _ => .error "allOf: inline member is not an object"
/-- the composite's additional values, encoded with the schema of the last inline member that
    declares additionalProperties -/
def toJCompAddl : List (Bool × Schema) → List (String × Val) → Except String (List (String × J))
  | [], _ => .error "allOf: additional values without additionalProperties"
  | (false, .obj _ (some a) _) :: ms, xs => if laterAddl ms then toJCompAddl ms xs else toJAddl a xs
  | _ :: ms, xs => toJCompAddl ms xs
end

/-! ### canonical dump of a value (what the harness prints for the Go value) -/

mutual
def dumpVal : Schema → Val → String
  | .prim _ _, .leaf _ d => d
  | .any, .leaf _ d => d
  | _, .null => "null"
  | _, .unset => "-"
  | .arr items _, .arr vs => "[" ++ ",".intercalate (dumpList items vs) ++ "]"
  | .arr _ _, .nilarr => "[]"
  | .obj fields addl _, .obj fs ax =>
    "{" ++ ",".intercalate (dumpFields fields fs ++ (match addl with
      | none => []
      | some a => ["map{" ++ ",".intercalate (((dumpAddl a (ax.getD [])).foldr insertSorted []).map (fun kv => toHex kv.1 ++ "=" ++ kv.2)) ++ "}"])) ++ "}"
  | .allOf members, .obj fs ax =>
    "{" ++ ",".intercalate (dumpMembers members fs ++ (if laterAddl members then
      ["map{" ++ ",".intercalate (((dumpCompAddl members (ax.getD [])).foldr insertSorted []).map (fun kv => toHex kv.1 ++ "=" ++ kv.2)) ++ "}"]
      else [])) ++ "}"
  | .oneOf alts _, .alt i v => "{" ++ ",".intercalate (dumpAlts alts i v) ++ "}"
  | _, _ => "?"
def dumpAlts : List (List String × Schema) → Nat → Val → List String
  | [], _, _ => []
  | (_, s) :: rest, 0, v => dumpVal s v :: rest.map (fun _ => "-")
  | _ :: rest, n + 1, v => "-" :: dumpAlts rest n v
def dumpList : Schema → List Val → List String
  | _, [] => []
  | s, v :: vs => dumpVal s v :: dumpList s vs
def dumpFields : List (String × Bool × Schema) → List Val → List String
  | [], _ => []
  | _ :: _, [] => []
  | (_, _, s) :: fs, v :: vs => dumpVal s v :: dumpFields fs vs
def dumpAddl : Schema → List (String × Val) → List (String × String)
  | _, [] => []
  | s, (k, v) :: xs => (k, dumpVal s v) :: dumpAddl s xs
def dumpMembers : List (Bool × Schema) → List Val → List String
  | [], _ => []
  | (true, s) :: ms, v :: vs => dumpVal s v :: dumpMembers ms vs
  | (true, _) :: _, [] => []
  | (false, .obj fields _ _) :: ms, vs => dumpFields fields vs ++ dumpMembers ms (vs.drop fields.length)
  | (false, _) :: ms, vs => dumpMembers ms vs
def dumpCompAddl : List (Bool × Schema) → List (String × Val) → List (String × String)
  | [], _ => []
  | (false, .obj _ (some a) _) :: ms, xs => if laterAddl ms then dumpCompAddl ms xs else dumpAddl a xs
  | _ :: ms, xs => dumpCompAddl ms xs
end

end Goag.JsonM

namespace Goag.JsonM
open Lean

/-! ### readers: schema from the OpenAPI JSON, value from the harness description -/

def refName? (j : Json) : Option String :=
  (jstr? j "$ref").bind (fun r =>
    let pre := "#/components/schemas/"
    if r.startsWith pre then some (r.drop pre.length).toString else none)

/-- read a schema, inlining references (fuel bounds the reference depth; the dialect is
    non-recursive) -/
def readSchema (schemas : Json) : Nat → Json → Except String Schema
  | 0, _ => .error "schema too deep (recursive?)"
  | fuel + 1, j =>
    match refName? j with
    | some n =>
      match jfield? schemas n with
      | some t => readSchema schemas fuel t
      | none => .error s!"unresolved ref {n}"
    | none =>
      let nullable := jbool j "nullable"
      let allOf := jarr j "allOf"
      let oneOf := jarr j "oneOf"
      if !allOf.isEmpty then do
        let ms ← allOf.mapM (fun m => do
          let s ← readSchema schemas fuel m
          pure ((refName? m).isSome, s))
        pure (.allOf ms)
      else if !oneOf.isEmpty then do
        let disc := (jfield? j "discriminator").bind (fun d => jstr? d "propertyName")
        let mapping := ((jfield? j "discriminator").bind (fun d => jfield? d "mapping")).map jobj |>.getD []
        let alts ← oneOf.mapM (fun m => do
          let s ← readSchema schemas fuel m
          let vals := match refName? m with
            | some n => n :: (mapping.filterMap (fun (k, t) => match t with
                | .str r => if r == "#/components/schemas/" ++ n || r == n then some k else none
                | _ => none))
            | none => []
          pure (vals, s))
        pure (.oneOf alts disc)
      else
        match jstr? j "type", jstr? j "format" with
        | some "string", some "date-time" => pure (.prim .time nullable)
        | some "string", _ => pure (.prim .str nullable)
        | some "integer", some "int32" => pure (.prim .int32 nullable)
        | some "integer", some "int64" => pure (.prim .int64 nullable)
        | some "integer", _ => pure (.prim .int nullable)
        | some "number", some "float" => pure (.prim .f32 nullable)
        | some "number", _ => pure (.prim .num nullable)
        | some "boolean", _ => pure (.prim .bool nullable)
        | some "array", _ =>
          match jfield? j "items" with
          | some it => do
            let s ← readSchema schemas fuel it
            pure (.arr s nullable)
          | none => .error "array without items"
        | some "object", _ => do
          let req := (jarr j "required").filterMap (fun r => match r with | .str s => some s | _ => none)
          let props := ((jfield? j "properties").map jobj).getD []
          let fields ← props.mapM (fun (name, pj) => do
            let s ← readSchema schemas fuel pj
            pure (name, req.contains name, s))
          let addl ← match jfield? j "additionalProperties" with
            | some (.bool true) => pure (some Schema.any)
            | some (.bool false) => pure none
            | some a => do
              let s ← readSchema schemas fuel a
              pure (some s)
            | none => pure none
          pure (.obj fields addl nullable)
        | none, _ => pure .any
        | some t, _ => .error s!"unsupported type {t}"

partial def readVal (j : Json) : Except String Val :=
  match jstr? j "k" with
  | some "null" => pure .null
  | some "unset" => pure .unset
  | some "nilarr" => pure .nilarr
  | some "arr" => do
    let vs ← (jarr j "v").mapM readVal
    pure (.arr vs)
  | some "obj" => do
    let fs ← (jarr j "f").mapM readVal
    let ax ← match jfield? j "x" with
      | some (.arr xs) => do
        let ps ← xs.toList.mapM (fun kv => match kv with
          | .arr a => match a.toList with
            | [Json.str k, v] => do
              let vv ← readVal v
              pure (k, vv)
            | _ => throw "bad additional entry"
          | _ => throw "bad additional entry")
        pure (some ps)
      | _ => pure none
    pure (.obj fs ax)
  | some "alt" =>
    match jfield? j "v", jfield? j "i" with
    | some v, i => do
      let vv ← readVal v
      let idx := match i with | some (.num n) => n.mantissa.toNat | _ => 0
      pure (.alt idx vv)
    | none, _ => throw "alt without value"
  | some _ =>
    match jstr? j "c", jstr? j "d" with
    | some c, some d => pure (.leaf c d)
    | _, _ => throw "leaf without canonical text"
  | none => throw "value without kind"

end Goag.JsonM

namespace Goag.JsonM

/-! ### JSON value → Go value (the generated UnmarshalJSON) -/

inductive DErr where
  | missing (key : String)
  | type (key : Option String)
  | additional
  | discriminator
  | oneof
  | unmodelled (msg : String)
deriving Repr, DecidableEq, Inhabited

def DErr.render : DErr → String
  | .missing k => s!"err(missing,{toHex k})"
  | .type (some k) => s!"err(type,{toHex k})"
  | .type none => "err(type,?)"
  | .additional => "err(type,additional)"
  | .discriminator => "err(discriminator)"
  | .oneof => "err(oneof)"
  | .unmodelled m => s!"unmodelled({m})"

/-- name an as yet unnamed type error after the property being decoded (the innermost
    property name is what the emitted error text ends with) -/
def DErr.under (k : String) : DErr → DErr
  | .type none => .type (some k)
  | .additional => .type (some k)
  | e => e

/-- library verdict on leaves: (kind tag, canonical leaf text) ↦ (dump, canonical re-encoding) or rejection -/
abbrev LeafDec := List ((String × String) × Option (String × String))

def lookupAssoc (ms : List (String × J)) (k : String) : Option J :=
  -- encoding/json keeps the LAST duplicate
  ((ms.reverse.find? (·.1 == k)).map (·.2))

def eraseKey (ms : List (String × J)) (k : String) : List (String × J) := ms.filter (·.1 != k)

mutual
def decode (tbl : LeafDec) : Schema → J → Except DErr Val
  | .prim k nullable, j =>
    match j with
    | .null => if nullable then .ok .null else .error (.unmodelled "null for non-nullable leaf")
    | .raw c =>
      match tbl.find? (fun e => e.1 == (k.tag, c)) with
      | some (_, some (d, rc)) => .ok (.leaf rc d)
      | some (_, none) => .error (.type none)
      | none => .error (.unmodelled s!"leaf not in table: {k.tag} {c}")
    | _ => .error (.type none)
  | .any, j => .ok (.leaf j.canon ("j:" ++ j.canon))
  | .arr items nullable, j =>
    match j with
    | .null => if nullable then .ok .null else .ok .nilarr
    | .arr js => (decodeList tbl items js).map Val.arr
    | _ => .error (.type none)
  | .obj fields addl nullable, j =>
    match j with
    | .null => if nullable then .ok .null else .error (.unmodelled "null for non-nullable object")
    | .obj ms =>
      match decodeFields tbl fields ms with
      | .error e => .error e
      | .ok (vs, rest) =>
        match addl with
        | none => .ok (.obj vs none)
        | some a =>
          match decodeAddl tbl a rest with
          | .error e => .error e
          | .ok [] => .ok (.obj vs none)      -- the map is allocated only when keys are left over
          | .ok xs => .ok (.obj vs (some xs))
    | _ => .error (.type none)
  | .allOf members, j =>
    match j with
    | .obj ms =>
      match decodeMembers tbl members ms with
      | .error e => .error e
      | .ok (vs, rest) =>
        if laterAddl members then
          match decodeCompAddl tbl members rest with
          | .error e => .error e
          | .ok [] => .ok (.obj vs none)
          | .ok xs => .ok (.obj vs (some xs))
        else .ok (.obj vs none)
    | _ => .error (.type none)
  | .oneOf alts disc, j =>
    match disc with
    | some d =>
      match j with
      | .obj ms =>
        let key := match lookupAssoc ms d with
          | some (.raw c) => if c.startsWith "\"" then some c else none   -- only a JSON string selects a variant
          | none => some "\"\""
          | _ => none
        match key with
        | none => .error (.unmodelled "discriminator of wrong JSON type")
        | some kc => decodeDisc tbl alts kc j 0
      | _ => .error (.unmodelled "discriminated oneOf on a non-object")
    | none => decodeProbe tbl alts j 0
def decodeList (tbl : LeafDec) : Schema → List J → Except DErr (List Val)
  | _, [] => .ok []
  | s, j :: js =>
    match decode tbl s j with
    | .error e => .error e
    | .ok v => match decodeList tbl s js with
      | .error e => .error e
      | .ok vs => .ok (v :: vs)
/-- declared properties in struct order over the shared key map: a present key is decoded and
    deleted, an absent required key is an error, an absent optional key stays unset -/
def decodeFields (tbl : LeafDec) : List (String × Bool × Schema) → List (String × J) → Except DErr (List Val × List (String × J))
  | [], ms => .ok ([], ms)
  | (name, req, s) :: fs, ms =>
    match lookupAssoc ms name with
    | none =>
      if req then .error (.missing name) else
      match decodeFields tbl fs ms with
      | .error e => .error e
      | .ok (vs, rest) => .ok (.unset :: vs, rest)
    | some j =>
      match decode tbl s j with
      | .error e => .error (e.under name)
      | .ok v =>
        match decodeFields tbl fs (eraseKey ms name) with
        | .error e => .error e
        | .ok (vs, rest) => .ok (v :: vs, rest)
def decodeAddl (tbl : LeafDec) : Schema → List (String × J) → Except DErr (List (String × Val))
  | _, [] => .ok []
  | s, (k, j) :: rest =>
    match decode tbl s j with
    | .error (.unmodelled m) => .error (.unmodelled m)
    | .error _ => .error .additional
    | .ok v => match decodeAddl tbl s rest with
      | .error e => .error e
      | .ok xs => .ok ((k, v) :: xs)
def decodeMembers (tbl : LeafDec) : List (Bool × Schema) → List (String × J) → Except DErr (List Val × List (String × J))
  | [], m => .ok ([], m)
  | (true, .obj fields addl _) :: ms, m =>
    match decodeFields tbl fields m with
    | .error e => .error e
    | .ok (vs, rest) =>
      match addl with
      | some _ => .error (.unmodelled "embedded member with additionalProperties")
      | none => match decodeMembers tbl ms rest with
        | .error e => .error e
        | .ok (more, left) => .ok (Val.obj vs none :: more, left)
  | (false, .obj fields _ _) :: ms, m =>
    match decodeFields tbl fields m with
    | .error e => .error e
    | .ok (vs, rest) => match decodeMembers tbl ms rest with
      | .error e => .error e
      | .ok (more, left) => .ok (vs ++ more, left)
  | _ :: _, _ => .error (.unmodelled "allOf member is not an object")
/-- keys left over by every member go to the composite's additional properties -/
def decodeCompAddl (tbl : LeafDec) : List (Bool × Schema) → List (String × J) → Except DErr (List (String × Val))
  | [], _ => .ok []
  | (false, .obj _ (some a) _) :: ms, rest => if laterAddl ms then decodeCompAddl tbl ms rest else decodeAddl tbl a rest
  | _ :: ms, rest => decodeCompAddl tbl ms rest
def decodeDisc (tbl : LeafDec) : List (List String × Schema) → String → J → Nat → Except DErr Val
  | [], _, _, _ => .error .discriminator
  | (vals, s) :: rest, kc, j, i =>
    if vals.any (fun v => goJsonString v == kc) then (decode tbl s j).map (Val.alt i)
    else decodeDisc tbl rest kc j (i + 1)
def decodeProbe (tbl : LeafDec) : List (List String × Schema) → J → Nat → Except DErr Val
  | [], _, _ => .error .oneof
  | (_, s) :: rest, j, i =>
    match decode tbl s j with
    | .ok v => .ok (.alt i v)
    | .error (.unmodelled m) => .error (.unmodelled m)
    | .error _ => decodeProbe tbl rest j (i + 1)
end

end Goag.JsonM

namespace Goag.JsonM

/-! ### reference: does a JSON value conform to the schema (C07), read from the spec alone -/

def isIntLit (c : String) : Bool :=
  let cs := c.toList
  let ds := match cs with | '-' :: r => r | r => r
  !ds.isEmpty && ds.all Char.isDigit

def isNumLit (c : String) : Bool :=
  match c.toList with
  | '-' :: d :: _ => d.isDigit
  | d :: _ => d.isDigit
  | [] => false

def leafKindOk : Kind → String → Bool
  | .str, c => c.startsWith "\""
  | .time, c => c.startsWith "\""
  | .bool, c => c == "true" || c == "false"
  | .int, c => isIntLit c
  | .int32, c => isIntLit c
  | .int64, c => isIntLit c
  | .num, c => isNumLit c
  | .f32, c => isNumLit c

def keysNodup (ms : List (String × J)) : Bool := (ms.map (·.1)).eraseDups.length == ms.length

def lookupFirst (ms : List (String × J)) (k : String) : Option J := (ms.find? (·.1 == k)).map (·.2)

def declaredNames : List (Bool × Schema) → List String
  | [] => []
  | (_, .obj fields _ _) :: rest => fields.map (·.1) ++ declaredNames rest
  | _ :: rest => declaredNames rest

mutual
def conforms : Schema → J → Bool
  | .prim k nullable, j =>
    match j with
    | .null => nullable
    | .raw c => leafKindOk k c
    | _ => false
  | .any, _ => true
  | .arr items nullable, j =>
    match j with
    | .null => nullable
    | .arr js => conformsAll items js
    | _ => false
  | .obj fields addl nullable, j =>
    match j with
    | .null => nullable
    | .obj ms =>
      let extras := ms.filter (fun kv => !fields.any (·.1 == kv.1))
      keysNodup ms && fieldsConform fields ms &&
        (match addl with
         | some a => conformsAll a (extras.map (·.2))
         | none => extras.isEmpty)
    | _ => false
  | .allOf members, j =>
    match j with
    | .obj ms =>
      let extras := ms.filter (fun kv => !(declaredNames members).contains kv.1)
      keysNodup ms && allMembers members ms &&
        (if laterAddl members then compExtrasConform members (extras.map (·.2)) else extras.isEmpty)
    | _ => false
  | .oneOf alts _, j => anyAlt alts j
def conformsAll : Schema → List J → Bool
  | _, [] => true
  | s, j :: js => conforms s j && conformsAll s js
/-- every declared property: present with the declared shape, or absent and optional -/
def fieldsConform : List (String × Bool × Schema) → List (String × J) → Bool
  | [], _ => true
  | (name, req, s) :: fs, ms =>
    (match lookupFirst ms name with
     | some j => conforms s j
     | none => !req) && fieldsConform fs ms
def allMembers : List (Bool × Schema) → List (String × J) → Bool
  | [], _ => true
  | (_, .obj fields _ _) :: rest, ms => fieldsConform fields ms && allMembers rest ms
  | _ :: _, _ => false
def anyAlt : List (List String × Schema) → J → Bool
  | [], _ => false
  | (_, s) :: rest, j => conforms s j || anyAlt rest j
def compExtrasConform : List (Bool × Schema) → List J → Bool
  | [], _ => true
  | (false, .obj _ (some a) _) :: ms, js => if laterAddl ms then compExtrasConform ms js else conformsAll a js
  | _ :: ms, js => compExtrasConform ms js
end

/-- harness encoding of a document: {"r": canonical leaf text} | null | {"a":[..]} | {"o":[[k, J]..]} -/
partial def readJ (j : Lean.Json) : Except String J :=
  match j with
  | .null => pure .null
  | _ =>
    match jstr? j "r" with
    | some c => pure (.raw c)
    | none =>
      match jfield? j "a", jfield? j "o" with
      | some (.arr a), _ => do
        let js ← a.toList.mapM readJ
        pure (.arr js)
      | _, some (.arr o) => do
        let ms ← o.toList.mapM (fun kv => match kv with
          | .arr p => match p.toList with
            | [Lean.Json.str k, v] => do
              let vv ← readJ v
              pure (k, vv)
            | _ => throw "bad member"
          | _ => throw "bad member")
        pure (.obj ms)
      | _, _ => throw "bad J"

end Goag.JsonM

namespace Goag.JsonM

/-! ### reference for C08: what re-encoding a valid document must give back -/

mutual
/-- the document with leaves in library-canonical form and with the keys the schema neither
    declares nor allows removed ("keeping additional properties where the schema allows them") -/
def prune (tbl : LeafDec) : Schema → J → J
  | .prim k _, j =>
    match j with
    | .raw c => match tbl.find? (fun e => e.1 == (k.tag, c)) with
      | some (_, some (_, rc)) => .raw rc
      | _ => .raw c
    | j => j
  | .any, j => j
  | .arr items _, j =>
    match j with
    | .arr js => .arr (pruneList tbl items js)
    | j => j
  | .obj fields addl _, j =>
    match j with
    | .obj ms =>
      let declared := pruneFields tbl fields ms
      let extras := ms.filter (fun kv => !fields.any (·.1 == kv.1))
      match addl with
      | some a => .obj (declared ++ pruneExtras tbl a extras)
      | none => .obj declared
    | j => j
  | .allOf members, j =>
    match j with
    | .obj ms =>
      let extras := ms.filter (fun kv => !(declaredNames members).contains kv.1)
      .obj (pruneMembers tbl members ms ++ (if laterAddl members then pruneCompExtras tbl members extras else []))
    | j => j
  | .oneOf alts _, j => pruneAlt tbl alts j
def pruneList (tbl : LeafDec) : Schema → List J → List J
  | _, [] => []
  | s, j :: js => prune tbl s j :: pruneList tbl s js
def pruneFields (tbl : LeafDec) : List (String × Bool × Schema) → List (String × J) → List (String × J)
  | [], _ => []
  | (name, _, s) :: fs, ms =>
    match lookupAssoc ms name with
    | some j => (name, prune tbl s j) :: pruneFields tbl fs ms
    | none => pruneFields tbl fs ms
def pruneExtras (tbl : LeafDec) : Schema → List (String × J) → List (String × J)
  | _, [] => []
  | s, (k, j) :: rest => (k, prune tbl s j) :: pruneExtras tbl s rest
def pruneMembers (tbl : LeafDec) : List (Bool × Schema) → List (String × J) → List (String × J)
  | [], _ => []
  | (_, .obj fields _ _) :: rest, ms => pruneFields tbl fields ms ++ pruneMembers tbl rest ms
  | _ :: rest, ms => pruneMembers tbl rest ms
def pruneCompExtras (tbl : LeafDec) : List (Bool × Schema) → List (String × J) → List (String × J)
  | [], _ => []
  | (false, .obj _ (some a) _) :: ms, xs => if laterAddl ms then pruneCompExtras tbl ms xs else pruneExtras tbl a xs
  | _ :: ms, xs => pruneCompExtras tbl ms xs
/-- the first alternative the document conforms to -/
def pruneAlt (tbl : LeafDec) : List (List String × Schema) → J → J
  | [], j => j
  | (_, s) :: rest, j => if conforms s j then prune tbl s j else pruneAlt tbl rest j
end

end Goag.JsonM

namespace Goag.JsonM

/-! ### known-finding class KF-C06-embeddedAddl -/

mutual
/-- some allOf (at any depth) has a member given by reference whose schema declares additionalProperties -/
def hasEmbeddedAddl : Schema → Bool
  | .prim _ _ => false
  | .any => false
  | .arr items _ => hasEmbeddedAddl items
  | .obj fields addl _ => fieldsEmbeddedAddl fields || (match addl with | some a => hasEmbeddedAddl a | none => false)
  | .allOf members => membersEmbeddedAddl members
  | .oneOf alts _ => altsEmbeddedAddl alts
def fieldsEmbeddedAddl : List (String × Bool × Schema) → Bool
  | [] => false
  | (_, _, s) :: fs => hasEmbeddedAddl s || fieldsEmbeddedAddl fs
def membersEmbeddedAddl : List (Bool × Schema) → Bool
  | [] => false
  | (isRef, s) :: ms =>
    (isRef && (match s with | .obj _ (some _) _ => true | _ => false)) || hasEmbeddedAddl s || membersEmbeddedAddl ms
def altsEmbeddedAddl : List (List String × Schema) → Bool
  | [] => false
  | (_, s) :: rest => hasEmbeddedAddl s || altsEmbeddedAddl rest
end

end Goag.JsonM
