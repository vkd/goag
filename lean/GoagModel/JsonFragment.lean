import GoagModel.JsonModel
/-
  The fragment of schemas, values and documents for which the C06 / C07 / C08 tree theorems are
  proved (`Props/C06b`, `C07b`, `C08b`), as executable predicates: the driver evaluates them on every
  value and document of a run and reports how many lie inside (`inside_proved_fragment`).

  Schemas: primitive leaves, arrays, objects with or without additionalProperties (each nullable or
  not, property names distinct) and allOf compositions of objects without additionalProperties
  (members by reference = embedded structs, inline members = flattened fields; all declared names
  distinct), nested to ANY depth. Outside: oneOf, untyped values, allOf members with
  additionalProperties (given by reference they are the finding KF-C06-embeddedAddl; inline ones are modelled,
  `toJCompAddl`, but not proved about).
-/
namespace Goag.JsonM

def isUnset : Val → Bool
  | .unset => true
  | _ => false

/-! ### C06: values the round trip is proved for

  `rt tbl s v`: `v` is a value of schema `s` in the fragment whose leaves the library round-trips (the
  leaf table maps the leaf's canonical text back to the same dump and text; the table is measured
  from the Go library on every run). A map is non-empty, its keys are distinct and none of them is a
  declared property name (an empty map is outside because it decodes to the nil map; nil slices
  likewise need a normal form for "equal"). -/

mutual
def rt (tbl : LeafDec) : Schema → Val → Bool
  | .prim k _, .leaf c d =>
    (match tbl.find? (fun e => e.1 == (k.tag, c)) with
     | some (_, some (d', rc)) => d' == d && rc == c
     | _ => false)
  | .prim _ nl, .null => nl
  | .arr items _, .arr vs => rtList tbl items vs
  | .arr _ nl, .null => nl
  | .obj fields _ _, .obj fs none => rtFields tbl fields fs && decide ((fields.map (·.1)).Nodup)
  | .obj fields (some a) _, .obj fs (some xs) =>
    rtFields tbl fields fs && decide ((fields.map (·.1)).Nodup) && rtAddl tbl a xs && !xs.isEmpty &&
      decide ((xs.map (·.1)).Nodup) && decide (∀ k ∈ xs.map (·.1), k ∉ fields.map (·.1))
  | .obj _ _ nl, .null => nl
  | .allOf members, .obj fs none => rtMembers tbl members fs && decide ((declaredNames members).Nodup)
  | _, _ => false
def rtList (tbl : LeafDec) : Schema → List Val → Bool
  | _, [] => true
  | s, v :: vs => rt tbl s v && rtList tbl s vs
def rtFields (tbl : LeafDec) : List (String × Bool × Schema) → List Val → Bool
  | [], [] => true
  | (_, req, s) :: fs, v :: vs =>
    (if isUnset v then !req else rt tbl s v) && rtFields tbl fs vs
  | _, _ => false
def rtAddl (tbl : LeafDec) : Schema → List (String × Val) → Bool
  | _, [] => true
  | s, (_, v) :: xs => rt tbl s v && rtAddl tbl s xs
/-- allOf of objects without additionalProperties: a member given by reference is one embedded
    struct value, the properties of an inline member are the next fields of the outer struct -/
def rtMembers (tbl : LeafDec) : List (Bool × Schema) → List Val → Bool
  | [], [] => true
  | (true, .obj fields none _) :: ms, (.obj fs none) :: vs => rtFields tbl fields fs && rtMembers tbl ms vs
  | (false, .obj fields none _) :: ms, vs =>
    rtFields tbl fields (vs.take fields.length) && rtMembers tbl ms (vs.drop fields.length)
  | _, _ => false
end

/-! ### C07: values whose encoding is proved to conform

  `wf s v`: `v` is a value of schema `s` in the fragment whose leaves carry a text of the lexical shape
  of their kind (what the library writes for an integer is an integer literal, …: measured per run),
  the keys of a map are distinct and none of them is a declared property name (a Go map cannot hold a
  key twice; the second condition is the domain restriction of DESIGN §11). -/

mutual
def wf : Schema → Val → Bool
  | .prim k _, .leaf c _ => leafKindOk k c
  | .prim _ nl, .null => nl
  | .arr items _, .arr vs => wfList items vs
  | .arr _ _, .nilarr => true
  | .arr _ nl, .null => nl
  | .obj fields none _, .obj fs none => wfFields fields fs && decide ((fields.map (·.1)).Nodup)
  | .obj fields (some _) _, .obj fs none => wfFields fields fs && decide ((fields.map (·.1)).Nodup)
  | .obj fields (some a) _, .obj fs (some xs) =>
    wfFields fields fs && decide ((fields.map (·.1)).Nodup) && wfAddl a xs &&
      decide ((xs.map (·.1)).Nodup) && decide (∀ k ∈ xs.map (·.1), k ∉ fields.map (·.1))
  | .obj _ _ nl, .null => nl
  | .allOf members, .obj fs none => wfMembers members fs && decide ((declaredNames members).Nodup)
  | _, _ => false
def wfList : Schema → List Val → Bool
  | _, [] => true
  | s, v :: vs => wf s v && wfList s vs
/-- one value per declared property (values beyond the declared ones belong to whoever comes next) -/
def wfFields : List (String × Bool × Schema) → List Val → Bool
  | [], _ => true
  | (_, _, s) :: fs, v :: vs => (isUnset v || wf s v) && wfFields fs vs
  | _ :: _, [] => false
/-- allOf of objects without additionalProperties: a member given by reference is one embedded
    struct value, an inline member's properties are fields of the outer struct -/
def wfMembers : List (Bool × Schema) → List Val → Bool
  | [], _ => true
  | (true, .obj fields none _) :: ms, (.obj fs none) :: vs => wfFields fields fs && wfMembers ms vs
  | (false, .obj fields none _) :: ms, vs => wfFields fields vs && wfMembers ms (vs.drop fields.length)
  | _, _ => false
def wfAddl : Schema → List (String × Val) → Bool
  | _, [] => true
  | s, (_, v) :: xs => wf s v && wfAddl s xs
end

/-! ### C08: the schemas of the fragment, and documents -/

mutual
def frag : Schema → Bool
  | .prim _ _ => true
  | .arr items _ => frag items
  | .obj fields none _ => fragFields fields && decide ((fields.map (·.1)).Nodup)
  | .obj fields (some a) _ => fragFields fields && decide ((fields.map (·.1)).Nodup) && frag a
  | .allOf members => fragMembers members && decide ((declaredNames members).Nodup)
  | _ => false
def fragFields : List (String × Bool × Schema) → Bool
  | [] => true
  | (_, _, s) :: fs => frag s && fragFields fs
/-- allOf of objects without additionalProperties (by reference or inline) -/
def fragMembers : List (Bool × Schema) → Bool
  | [] => true
  | (_, .obj fields none _) :: ms => fragFields fields && fragMembers ms
  | _ => false
end

mutual
/-- every leaf text the decoder will look at is one the library accepts for its kind -/
def leavesOk (tbl : LeafDec) : Schema → J → Bool
  | .prim k _, .raw c =>
    (match tbl.find? (fun e => e.1 == (k.tag, c)) with
     | some (_, some _) => true
     | _ => false)
  | .arr items _, .arr js => leavesOkList tbl items js
  | .obj fields none _, .obj ms => leavesOkFields tbl fields ms
  | .obj fields (some a) _, .obj ms =>
    leavesOkFields tbl fields ms && leavesOkList tbl a ((ms.filter (fun kv => !fields.any (·.1 == kv.1))).map (·.2))
  | .allOf members, .obj ms => leavesOkMembers tbl members ms
  | _, _ => true
def leavesOkList (tbl : LeafDec) : Schema → List J → Bool
  | _, [] => true
  | s, j :: js => leavesOk tbl s j && leavesOkList tbl s js
def leavesOkFields (tbl : LeafDec) : List (String × Bool × Schema) → List (String × J) → Bool
  | [], _ => true
  | (name, _, s) :: fs, ms =>
    (match lookupAssoc ms name with
     | some j => leavesOk tbl s j
     | none => true) && leavesOkFields tbl fs ms
def leavesOkMembers (tbl : LeafDec) : List (Bool × Schema) → List (String × J) → Bool
  | [], _ => true
  | (_, .obj fields _ _) :: rest, ms => leavesOkFields tbl fields ms && leavesOkMembers tbl rest ms
  | _ :: rest, ms => leavesOkMembers tbl rest ms
end

mutual
/-- required properties present, objects where objects are declared, arrays where arrays are
    declared, `null` only where the schema is nullable (or an array is declared: the decoder reads
    `null` there as the nil slice), at every depth; leaves are the library's business -/
def shapeOk : Schema → J → Bool
  | .prim _ nl, .null => nl
  | .prim _ _, .raw _ => true
  | .prim _ _, _ => false
  | .arr _ _, .null => true
  | .arr items _, .arr js => shapeOkList items js
  | .arr _ _, _ => false
  | .obj _ _ nl, .null => nl
  | .obj fields none _, .obj ms => shapeOkFields fields ms
  | .obj fields (some a) _, .obj ms =>
    shapeOkFields fields ms && shapeOkList a ((ms.filter (fun kv => !fields.any (·.1 == kv.1))).map (·.2))
  | .obj _ _ _, _ => false
  | .allOf members, .obj ms => shapeOkMembers members ms
  | .allOf _, _ => false
  | _, _ => true
def shapeOkList : Schema → List J → Bool
  | _, [] => true
  | s, j :: js => shapeOk s j && shapeOkList s js
def shapeOkFields : List (String × Bool × Schema) → List (String × J) → Bool
  | [], _ => true
  | (name, req, s) :: fs, ms =>
    (match lookupAssoc ms name with
     | some j => shapeOk s j
     | none => !req) && shapeOkFields fs ms
def shapeOkMembers : List (Bool × Schema) → List (String × J) → Bool
  | [], _ => true
  | (_, .obj fields _ _) :: rest, ms => shapeOkFields fields ms && shapeOkMembers rest ms
  | _ :: rest, ms => shapeOkMembers rest ms
end

/-- a leaf table for the examples -/
def exTbl : LeafDec := [(("int", "7"), some ("i:7", "7")), (("str", "\"a\""), some ("s:61", "\"a\""))]

end Goag.JsonM
