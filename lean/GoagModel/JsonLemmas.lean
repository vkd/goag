import GoagModel.JsonFragment
/-
  Lemmas about the JSON codec model that the C06 / C07 / C08 / C18 proofs share: induction over schema
  trees, the key map of an object document, what a successful run of each encoder / decoder function
  consists of, and allOf members one at a time.
-/
namespace Goag.JsonM

/-- the property schemas of the members that are objects: what the member-level functions
    (`toJMembers`, `decodeMembers`, `allMembers`, …) go straight to -/
def memberProps : List (Bool × Schema) → List Schema
  | [] => []
  | (_, .obj fields _ _) :: ms => fields.map (·.2.2) ++ memberProps ms
  | _ :: ms => memberProps ms

theorem forall_mem_memberProps_cons {P : Schema → Prop} {b nl : Bool} {fields : List (String × Bool × Schema)}
    {a : Option Schema} {ms : List (Bool × Schema)} :
    (∀ s ∈ memberProps ((b, .obj fields a nl) :: ms), P s) ↔ (∀ f ∈ fields, P f.2.2) ∧ ∀ s ∈ memberProps ms, P s := by
  rw [memberProps, List.forall_mem_append, List.forall_mem_map]

/-- Structural induction on schema trees, with the hypotheses for the schemas one level down given by
    membership (for `allOf`: two levels down, see `memberProps`). -/
theorem Schema.induct {P : Schema → Prop}
    (prim : ∀ k nl, P (.prim k nl)) (any : P .any)
    (arr : ∀ items nl, P items → P (.arr items nl))
    (obj : ∀ fields addl nl, (∀ f ∈ fields, P f.2.2) → (∀ a, addl = some a → P a) → P (.obj fields addl nl))
    (allOf : ∀ members, (∀ s ∈ memberProps members, P s) → P (.allOf members))
    (oneOf : ∀ alts d, P (.oneOf alts d)) : ∀ s, P s := by
  intro s
  -- `motive_1` also carries what `allOf` needs of a member that is an object
  refine (Schema.rec
    (motive_1 := fun s => P s ∧ ∀ fields a nl, s = .obj fields a nl → ∀ f ∈ fields, P f.2.2)
    (motive_2 := fun fields => ∀ f ∈ fields, P f.2.2)
    (motive_3 := fun addl => ∀ a, addl = some a → P a)
    (motive_4 := fun members => ∀ s ∈ memberProps members, P s)
    (motive_5 := fun _ => True) (motive_6 := fun f => P f.2.2)
    (motive_7 := fun m => P m.2 ∧ ∀ fields a nl, m.2 = .obj fields a nl → ∀ f ∈ fields, P f.2.2)
    (motive_8 := fun _ => True)
    ?_ ?_ ?_ ?_ ?_ ?_ ?_ ?_ ?_ ?_ ?_ ?_ ?_ ?_ ?_ ?_ ?_ s).1
  -- the six schema constructors
  · exact fun k nl => ⟨prim k nl, fun _ _ _ h => nomatch h⟩
  · exact ⟨any, fun _ _ _ h => nomatch h⟩
  · exact fun items nl ih => ⟨arr items nl ih.1, fun _ _ _ h => nomatch h⟩
  · exact fun fields addl nl hf ha => ⟨obj fields addl nl hf ha, fun _ _ _ h => by cases h; exact hf⟩
  · exact fun members hm => ⟨allOf members hm, fun _ _ _ h => nomatch h⟩
  · exact fun alts d _ => ⟨oneOf alts d, fun _ _ _ h => nomatch h⟩
  -- property lists, additionalProperties, member lists, alternative lists (nil and cons each)
  · exact fun _ h => nomatch h
  · exact fun _ _ hh ht => List.forall_mem_cons.mpr ⟨hh, ht⟩
  · exact fun _ h => nomatch h
  · exact fun _ ih a h => by cases h; exact ih.1
  · exact fun _ h => nomatch h
  · intro ⟨b, s⟩ tail hh ht
    cases s with
    | obj fields a nl =>
      exact forall_mem_memberProps_cons.mpr ⟨hh.2 fields a nl rfl, ht⟩
    | _ => exact ht
  · trivial
  · exact fun _ _ _ _ => trivial
  -- the three kinds of pairs
  · exact fun _ _ h => h.1
  · exact fun _ _ h => h
  · exact fun _ _ _ => trivial

section
variable {tbl : LeafDec} {s a items : Schema} {fields ft : List (String × Bool × Schema)} {members : List (Bool × Schema)}
  {ms rest xm doc : List (String × J)} {vs vt : List Val} {xs : List (String × Val)} {js : List J} {v : Val} {j : J}
  {k name : String} {req nl : Bool} {addl : Option Schema}

theorem find?_filter_of_imp {α : Type} {p q : α → Bool} {l : List α} (h : ∀ a ∈ l, q a = true → p a = true) :
    (l.filter p).find? q = l.find? q := by
  induction l with
  | nil => rfl
  | cons a l ih =>
    have iht := ih fun b hb => h b (List.mem_cons_of_mem _ hb)
    cases hq : q a with
    | true => simp [h a List.mem_cons_self hq, hq]
    | false => by_cases hp : p a = true <;> simp [hp, hq, iht]

theorem find?_key_eq_none :
    ms.find? (·.1 == k) = none ↔ k ∉ ms.map (·.1) := by
  rw [List.find?_eq_none, List.mem_map]
  exact ⟨fun h ⟨kv, hkv, e⟩ => h kv hkv (beq_iff_eq.mpr e), fun h kv hkv e => h ⟨kv, hkv, beq_iff_eq.mp e⟩⟩

theorem lookupAssoc_eq_none : lookupAssoc ms k = none ↔ k ∉ ms.map (·.1) := by
  rw [lookupAssoc, Option.map_eq_none_iff, find?_key_eq_none, List.map_reverse, List.mem_reverse]

theorem lookupFirst_eq_none : lookupFirst ms k = none ↔ k ∉ ms.map (·.1) := by
  rw [lookupFirst, Option.map_eq_none_iff, find?_key_eq_none]

theorem lookupAssoc_cons (k' : String) (j' : J) (ms : List (String × J)) (k : String) :
    lookupAssoc ((k', j') :: ms) k = (lookupAssoc ms k).or (if k' = k then some j' else none) := by
  rw [lookupAssoc, List.reverse_cons, List.find?_append, Option.map_or, List.find?_singleton]
  simp [lookupAssoc]

theorem lookupFirst_cons (k' : String) (j' : J) (ms : List (String × J)) (k : String) :
    lookupFirst ((k', j') :: ms) k = if k' = k then some j' else lookupFirst ms k := by
  by_cases hk : k' = k <;> simp [lookupFirst, hk]

theorem lookupFirst_append (l₁ l₂ : List (String × J)) (k : String) :
    lookupFirst (l₁ ++ l₂) k = (lookupFirst l₁ k).or (lookupFirst l₂ k) := by
  rw [lookupFirst, List.find?_append, Option.map_or]; rfl

theorem lookupFirst_append_left {l₁ l₂ : List (String × J)} (h : k ∉ l₂.map (·.1)) :
    lookupFirst (l₁ ++ l₂) k = lookupFirst l₁ k := by
  rw [lookupFirst_append, lookupFirst_eq_none.mpr h, Option.or_none]

theorem lookupFirst_append_right {l₁ l₂ : List (String × J)} (h : k ∉ l₁.map (·.1)) :
    lookupFirst (l₁ ++ l₂) k = lookupFirst l₂ k := by
  rw [lookupFirst_append, lookupFirst_eq_none.mpr h, Option.none_or]

theorem lookupAssoc_append (l₁ l₂ : List (String × J)) (k : String) :
    lookupAssoc (l₁ ++ l₂) k = (lookupAssoc l₂ k).or (lookupAssoc l₁ k) := by
  rw [lookupAssoc, List.reverse_append, List.find?_append, Option.map_or]; rfl

theorem lookupAssoc_head (h : k ∉ ms.map (·.1)) :
    lookupAssoc ((k, j) :: ms) k = some j := by
  rw [lookupAssoc_cons, lookupAssoc_eq_none.mpr h, if_pos rfl, Option.none_or]

/-- The decoder and `prune` read a document as `encoding/json` does, the LAST duplicate wins (`lookupAssoc`);
    the reference `conforms` reads it first-match (`lookupFirst`). With distinct keys it does not matter. -/
theorem lookupFirst_eq_lookupAssoc (h : (ms.map (·.1)).Nodup) (k : String) :
    lookupFirst ms k = lookupAssoc ms k := by
  induction ms with
  | nil => rfl
  | cons m rest ih =>
    obtain ⟨k', j'⟩ := m
    rw [List.map_cons, List.nodup_cons] at h
    rw [lookupFirst_cons, lookupAssoc_cons, ih h.2]
    by_cases hk : k' = k
    · rw [if_pos hk, if_pos hk, lookupAssoc_eq_none.mpr (hk ▸ h.1), Option.none_or]
    · rw [if_neg hk, if_neg hk, Option.or_none]

theorem lookupAssoc_filter {p : String × J → Bool} (h : ∀ kv ∈ ms, kv.1 = k → p kv = true) :
    lookupAssoc (ms.filter p) k = lookupAssoc ms k := by
  unfold lookupAssoc
  rw [← List.filter_reverse, find?_filter_of_imp]
  exact fun a ha hk => h a (List.mem_reverse.mp ha) (beq_iff_eq.mp hk)

theorem lookupAssoc_eraseKey (h : k ≠ name) :
    lookupAssoc (eraseKey ms name) k = lookupAssoc ms k :=
  lookupAssoc_filter fun _ _ e => bne_iff_ne.mpr (e ▸ h)

theorem eraseKey_head (h : k ∉ ms.map (·.1)) :
    eraseKey ((k, j) :: ms) k = ms := by
  have : ∀ kv ∈ ms, (kv.1 != k) = true := fun kv hkv => bne_iff_ne.mpr fun e => h (e ▸ List.mem_map_of_mem hkv)
  simp [eraseKey, List.filter_eq_self.mpr this]

theorem eraseKey_keys_sublist (ms : List (String × J)) (name : String) :
    ((eraseKey ms name).map (·.1)).Sublist (ms.map (·.1)) :=
  List.filter_sublist.map _

theorem eraseKey_of_absent (h : name ∉ ms.map (·.1)) : eraseKey ms name = ms :=
  List.filter_eq_self.mpr fun _ hkv => bne_iff_ne.mpr fun e => h (e ▸ List.mem_map_of_mem hkv)

theorem extras_cons (name : String) (req : Bool) (s : Schema) (ft : List (String × Bool × Schema)) (ms : List (String × J)) :
    ms.filter (fun kv => !((name, req, s) :: ft).any (·.1 == kv.1)) =
      (eraseKey ms name).filter (fun kv => !ft.any (·.1 == kv.1)) := by
  rw [eraseKey, List.filter_filter]
  refine List.filter_congr fun kv _ => ?_
  rw [List.any_cons, Bool.not_or, Bool.and_comm, bne, BEq.comm]

theorem any_fst_eq {β : Type} {l : List (String × β)} : l.any (·.1 == k) = true ↔ k ∈ l.map (·.1) := by
  rw [List.any_eq_true, List.mem_map]
  exact ⟨fun ⟨f, hf, e⟩ => ⟨f, hf, beq_iff_eq.mp e⟩, fun ⟨f, hf, e⟩ => ⟨f, hf, beq_iff_eq.mpr e⟩⟩

theorem extras_append (hsub : ∀ k ∈ ms.map (·.1), k ∈ fields.map (·.1))
    (hdis : ∀ k ∈ xm.map (·.1), k ∉ fields.map (·.1)) :
    (ms ++ xm).filter (fun kv => !fields.any (·.1 == kv.1)) = xm := by
  rw [List.filter_append, List.filter_eq_nil_iff.mpr, List.nil_append, List.filter_eq_self]
  · exact fun kv hkv => by rw [Bool.not_eq_true', ← Bool.not_eq_true, any_fst_eq]; exact hdis _ (List.mem_map_of_mem hkv)
  · exact fun kv hkv => by rw [Bool.not_eq_true', Bool.not_eq_false, any_fst_eq]; exact hsub _ (List.mem_map_of_mem hkv)

theorem lookupAssoc_extras (h : k ∉ fields.map (·.1)) :
    lookupAssoc (ms.filter (fun kv => !fields.any (·.1 == kv.1))) k = lookupAssoc ms k :=
  lookupAssoc_filter fun kv _ e => by rw [Bool.not_eq_true', ← Bool.not_eq_true, any_fst_eq, e]; exact h

theorem filter_ne_eq_self {a : String} {as : List String} : (as.filter fun b => !b == a) = as ↔ a ∉ as := by
  rw [List.filter_eq_self]
  exact ⟨fun h hm => by simpa using h a hm, fun h b hb => by simpa using fun e : b = a => h (e ▸ hb)⟩

theorem eraseDups_of_nodup {l : List String} (h : l.Nodup) : l.eraseDups = l := by
  induction l with
  | nil => rfl
  | cons a as ih =>
    rw [List.nodup_cons] at h
    rw [List.eraseDups_cons, filter_ne_eq_self.mpr h.1, ih h.2]

-- the `≤` half is there to carry the recursion (the recursive call is on a filtered tail)
theorem nodup_of_eraseDups_length : ∀ (l : List String),
    l.eraseDups.length ≤ l.length ∧ (l.eraseDups.length = l.length → l.Nodup)
  | [] => ⟨Nat.le_refl _, fun _ => .nil⟩
  | a :: as => by
    have hfl := List.length_filter_le (fun b => !b == a) as
    obtain ⟨hle, hnd⟩ := nodup_of_eraseDups_length (as.filter fun b => !b == a)
    rw [List.eraseDups_cons, List.length_cons, List.length_cons]
    refine ⟨by omega, fun heq => ?_⟩
    -- nothing was filtered out, so `a` does not occur again
    have hfe : (as.filter fun b => !b == a) = as :=
      List.filter_eq_self.mpr (List.length_filter_eq_length_iff.mp (by omega))
    rw [hfe] at hnd heq
    exact List.nodup_cons.mpr ⟨filter_ne_eq_self.mp hfe, hnd (Nat.succ.inj heq)⟩
termination_by l => l.length
decreasing_by exact Nat.lt_succ_of_le (List.length_filter_le _ _)

theorem keysNodup_iff : keysNodup ms = true ↔ (ms.map (·.1)).Nodup := by
  rw [keysNodup, beq_iff_eq, show ms.length = (ms.map (·.1)).length from (List.length_map _).symm]
  exact ⟨(nodup_of_eraseDups_length _).2, fun h => by rw [eraseDups_of_nodup h]⟩

theorem toJList_cons_eq_ok :
    toJList s (v :: vs) = .ok js ↔ ∃ j jt, toJ s v = .ok j ∧ toJList s vs = .ok jt ∧ js = j :: jt := by
  rw [toJList]
  constructor
  · intro h
    split at h
    · next j jt hj ht => cases h; exact ⟨j, jt, hj, ht, rfl⟩
    · cases h
    · cases h
  · rintro ⟨j, jt, hj, ht, rfl⟩
    rw [hj, ht]

theorem toJAddl_cons_eq_ok :
    toJAddl s ((k, v) :: xs) = .ok xm ↔ ∃ j xt, toJ s v = .ok j ∧ toJAddl s xs = .ok xt ∧ xm = (k, j) :: xt := by
  rw [toJAddl]
  constructor
  · intro h
    split at h
    · next j xt hj ht => cases h; exact ⟨j, xt, hj, ht, rfl⟩
    · cases h
    · cases h
  · rintro ⟨j, xt, hj, ht, rfl⟩
    rw [hj, ht]

theorem toJFields_cons_unset (name : String) (req : Bool) (s : Schema) (ft : List (String × Bool × Schema)) (vt : List Val) :
    toJFields ((name, req, s) :: ft) (Val.unset :: vt) =
      (if req then .error "unset required field" else toJFields ft vt) := by
  rw [toJFields]

/-- no schema encodes the "unset" marker: it is the property writer that skips it -/
theorem toJ_ne_unset (h : toJ s v = .ok j) : v ≠ .unset := by
  rintro rfl
  unfold toJ at h
  cases s <;> cases h

theorem toJFields_cons_set {mt : List (String × J)} {vr : List Val}
    (hj : toJ s v = .ok j) (hr : toJFields ft vt = .ok (mt, vr)) :
    toJFields ((name, req, s) :: ft) (v :: vt) = .ok ((name, j) :: mt, vr) := by
  -- `eq_4`: the equation of the branch "the value is set"
  rw [toJFields.eq_4 _ _ _ _ _ _ (toJ_ne_unset hj), hj, hr]

theorem toJFields_cons_ok {vr : List Val} (h : toJFields ((name, req, s) :: ft) vs = .ok (ms, vr)) :
    ∃ v vt, vs = v :: vt ∧
      ((v = .unset ∧ req = false ∧ toJFields ft vt = .ok (ms, vr)) ∨
       (∃ j mt, toJ s v = .ok j ∧ toJFields ft vt = .ok (mt, vr) ∧ ms = (name, j) :: mt)) := by
  cases vs with
  | nil => rw [toJFields] at h; cases h
  | cons v vt =>
    refine ⟨v, vt, rfl, ?_⟩
    by_cases hv : v = .unset
    · subst hv
      rw [toJFields_cons_unset] at h
      cases req with
      | false => exact .inl ⟨rfl, rfl, h⟩
      | true => cases h
    · rw [toJFields.eq_4 _ _ _ _ _ _ hv] at h
      split at h
      · next j mt r hj hr => cases h; exact .inr ⟨j, mt, hj, hr, rfl⟩
      · cases h
      · cases h

theorem toJFields_names_declared (fields : List (String × Bool × Schema)) (vs : List Val)
    (ms : List (String × J)) (rest : List Val) (h : toJFields fields vs = .ok (ms, rest)) :
    (ms.map (·.1)).Sublist (fields.map (·.1)) := by
  induction fields generalizing vs ms with
  | nil => rw [toJFields] at h; cases h; exact .slnil
  | cons f fs ih =>
    obtain ⟨v, vt, rfl, ⟨-, -, hr⟩ | ⟨j, mt, -, hr, rfl⟩⟩ := toJFields_cons_ok h
    · exact (ih vt ms hr).cons _
    · exact (ih vt mt hr).cons_cons _

/-- the property writer consumes exactly one value per declared property -/
theorem toJFields_append (fields : List (String × Bool × Schema)) (fs vs : List Val)
    (hlen : fs.length = fields.length) :
    toJFields fields (fs ++ vs) =
      (match toJFields fields fs with
       | .ok (ms, _) => .ok (ms, vs)
       | .error e => .error e) := by
  induction fields generalizing fs with
  | nil =>
    cases fs with
    | nil => rw [List.nil_append, toJFields, toJFields]
    | cons _ _ => cases hlen
  | cons f rest ih =>
    obtain ⟨name, req, s⟩ := f
    cases fs with
    | nil => cases hlen
    | cons v vt =>
      have ih := ih vt (Nat.succ.inj hlen)
      by_cases hv : v = .unset
      · subst hv
        rw [List.cons_append, toJFields_cons_unset, toJFields_cons_unset]
        cases req
        · exact ih
        · rfl
      · rw [List.cons_append, toJFields.eq_4 _ _ _ _ _ _ hv, toJFields.eq_4 _ _ _ _ _ _ hv, ih]
        cases toJ s v <;> cases toJFields rest vt <;> rfl

theorem toJFields_ok_split {fields : List (String × Bool × Schema)} {vs vr : List Val} {ms : List (String × J)}
    (h : toJFields fields vs = .ok (ms, vr)) :
    ∃ fs, vs = fs ++ vr ∧ fs.length = fields.length ∧ toJFields fields fs = .ok (ms, []) := by
  induction fields generalizing vs ms with
  | nil => rw [toJFields] at h; cases h; exact ⟨[], rfl, rfl, toJFields.eq_1 []⟩
  | cons f fs ih =>
    obtain ⟨name, req, s⟩ := f
    obtain ⟨v, vt, rfl, ⟨rfl, rfl, hr⟩ | ⟨j, mt, hj, hr, rfl⟩⟩ := toJFields_cons_ok h
    · obtain ⟨ft, rfl, hl, hf⟩ := ih hr
      exact ⟨.unset :: ft, rfl, congrArg Nat.succ hl, by rw [toJFields_cons_unset]; exact hf⟩
    · obtain ⟨ft, rfl, hl, hf⟩ := ih hr
      exact ⟨v :: ft, rfl, congrArg Nat.succ hl, toJFields_cons_set hj hf⟩

theorem toJFields_length_eq {fields : List (String × Bool × Schema)} {fs : List Val} {ms : List (String × J)}
    (h : toJFields fields fs = .ok (ms, [])) : fs.length = fields.length := by
  obtain ⟨fs', rfl, hl, -⟩ := toJFields_ok_split h
  rw [List.append_nil, hl]

theorem toJFields_length (fields : List (String × Bool × Schema)) (vs : List Val) (ms : List (String × J)) (rest : List Val)
    (h : toJFields fields vs = .ok (ms, rest)) : fields.length ≤ vs.length := by
  obtain ⟨fs, rfl, hl, -⟩ := toJFields_ok_split h
  rw [List.length_append, hl]
  exact Nat.le_add_right _ _

theorem toJ_arr_ok (h : toJ (.arr items nl) (.arr vs) = .ok j) :
    ∃ js, toJList items vs = .ok js ∧ j = .arr js := by
  rw [toJ] at h
  cases hl : toJList items vs with
  | error e => rw [hl] at h; cases h
  | ok js => rw [hl] at h; cases h; exact ⟨js, rfl, rfl⟩

theorem toJ_obj_nomap (hF : toJFields fields vs = .ok (ms, [])) :
    toJ (.obj fields addl nl) (.obj vs none) = .ok (.obj ms) := by
  rw [toJ, hF]
  cases addl <;> rfl

theorem toJ_obj_map (hF : toJFields fields vs = .ok (ms, [])) (hA : toJAddl a xs = .ok xm) :
    toJ (.obj fields (some a) nl) (.obj vs (some xs)) = .ok (.obj (ms ++ xm)) := by
  rw [toJ, hF]
  simp only [List.isEmpty_nil, Bool.not_true, Bool.false_eq_true, if_false, hA, Except.map]

theorem toJ_obj_ok {ax : Option (List (String × Val))} (h : toJ (.obj fields addl nl) (.obj vs ax) = .ok j) :
    ∃ ms, toJFields fields vs = .ok (ms, []) ∧
      ((ax = none ∧ j = .obj ms) ∨
       ∃ a xs xm, addl = some a ∧ ax = some xs ∧ toJAddl a xs = .ok xm ∧ j = .obj (ms ++ xm)) := by
  rw [toJ] at h
  split at h
  · cases h
  · next ms rest hF =>
    cases rest with
    | cons _ _ => cases h
    | nil =>
      refine ⟨ms, hF, ?_⟩
      simp only [List.isEmpty_nil, Bool.not_true, Bool.false_eq_true, if_false] at h
      split at h
      · next a xs =>
        cases hA : toJAddl a xs with
        | error e => rw [hA] at h; cases h
        | ok xm => rw [hA] at h; cases h; exact .inr ⟨a, xs, xm, rfl, rfl, hA, rfl⟩
      · cases h; exact .inl ⟨rfl, rfl⟩
      · cases h

theorem toJ_obj_shape {mm : List (String × J)} (h : toJ (.obj fields addl nl) v = .ok (.obj mm)) :
    ∃ fs ax, v = .obj fs ax := by
  cases v with
  | obj fs ax => exact ⟨fs, ax, rfl⟩
  | null => rw [toJ] at h; split at h <;> cases h
  | _ => simp [toJ] at h

theorem toJ_allOf_eq_ok : toJ (.allOf members) (.obj vs none) = .ok j ↔ ∃ ms, toJMembers members vs = .ok ms ∧ j = .obj ms := by
  rw [toJ]
  cases toJMembers members vs with
  | error e => exact ⟨nofun, fun ⟨_, h, _⟩ => nomatch h⟩
  | ok ms => exact ⟨fun h => ⟨ms, rfl, (Except.ok.inj h).symm⟩, fun ⟨_, h, e⟩ => by cases h; rw [e]⟩

theorem toJAlt_get (alts : List (List String × Schema)) (i : Nat) (vals : List String) (s : Schema) (v : Val)
    (h : alts[i]? = some (vals, s)) : toJAlt alts i v = toJ s v := by
  induction alts generalizing i with
  | nil => cases h
  | cons a rest ih =>
    cases i with
    | zero => cases h; rw [toJAlt]
    | succ k => rw [toJAlt]; exact ih k h

theorem decodeList_cons_eq_ok :
    decodeList tbl s (j :: js) = .ok vs ↔ ∃ v vt, decode tbl s j = .ok v ∧ decodeList tbl s js = .ok vt ∧ vs = v :: vt := by
  rw [decodeList]
  constructor
  · intro h
    split at h
    · cases h
    · next v hv =>
      split at h
      · cases h
      · next vt ht => cases h; exact ⟨v, vt, hv, ht, rfl⟩
  · rintro ⟨v, vt, hv, ht, rfl⟩
    rw [hv, ht]

theorem decodeAddl_cons_eq_ok :
    decodeAddl tbl s ((k, j) :: rest) = .ok xs ↔
    ∃ v xt, decode tbl s j = .ok v ∧ decodeAddl tbl s rest = .ok xt ∧ xs = (k, v) :: xt := by
  rw [decodeAddl]
  constructor
  · intro h
    split at h
    · cases h
    · cases h
    · next v hv =>
      split at h
      · cases h
      · next xt ht => cases h; exact ⟨v, xt, hv, ht, rfl⟩
  · rintro ⟨v, xt, hv, ht, rfl⟩
    rw [hv, ht]

theorem decodeFields_cons_absent (hl : lookupAssoc ms name = none)
    (hr : decodeFields tbl ft ms = .ok (vt, rest)) :
    decodeFields tbl ((name, false, s) :: ft) ms = .ok (.unset :: vt, rest) := by
  rw [decodeFields, hl]
  simp only [Bool.false_eq_true, if_false, hr]

theorem decodeFields_cons_present (hl : lookupAssoc ms name = some j) (hv : decode tbl s j = .ok v)
    (hr : decodeFields tbl ft (eraseKey ms name) = .ok (vt, rest)) :
    decodeFields tbl ((name, req, s) :: ft) ms = .ok (v :: vt, rest) := by
  rw [decodeFields, hl]
  simp only [hv, hr]

theorem decodeFields_cons_ok (h : decodeFields tbl ((name, req, s) :: ft) ms = .ok (vs, rest)) :
    (lookupAssoc ms name = none ∧ req = false ∧ ∃ vt, decodeFields tbl ft ms = .ok (vt, rest) ∧ vs = .unset :: vt) ∨
    (∃ j v vt, lookupAssoc ms name = some j ∧ decode tbl s j = .ok v ∧
    decodeFields tbl ft (eraseKey ms name) = .ok (vt, rest) ∧ vs = v :: vt) := by
  rw [decodeFields] at h
  split at h
  · next hl =>
    cases req with
    | true => cases h
    | false =>
      simp only [Bool.false_eq_true, if_false] at h
      split at h
      · cases h
      · next vt r hr => cases h; exact .inl ⟨hl, rfl, vt, hr, rfl⟩
  · next j hl =>
    split at h
    · cases h
    · next v hv =>
      split at h
      · cases h
      · next vt r hr => cases h; exact .inr ⟨j, v, vt, hl, hv, hr, rfl⟩

theorem decode_arr_ok (h : decode tbl (.arr items nl) (.arr js) = .ok v) :
    ∃ vs, decodeList tbl items js = .ok vs ∧ v = .arr vs := by
  rw [decode] at h
  cases hl : decodeList tbl items js with
  | error e => rw [hl] at h; cases h
  | ok vs => rw [hl] at h; cases h; exact ⟨vs, rfl, rfl⟩

theorem decode_obj_noaddl (hF : decodeFields tbl fields ms = .ok (vs, rest)) :
    decode tbl (.obj fields none nl) (.obj ms) = .ok (.obj vs none) := by
  rw [decode, hF]

theorem decode_obj_addl (hF : decodeFields tbl fields ms = .ok (vs, rest)) (hA : decodeAddl tbl a rest = .ok xs) :
    decode tbl (.obj fields (some a) nl) (.obj ms) = .ok (.obj vs (if xs.isEmpty then none else some xs)) := by
  rw [decode, hF]
  simp only [hA]
  cases xs <;> rfl

theorem decode_obj_ok (h : decode tbl (.obj fields addl nl) (.obj ms) = .ok v) :
    ∃ vs rest, decodeFields tbl fields ms = .ok (vs, rest) ∧
      ((addl = none ∧ v = .obj vs none) ∨
       ∃ a xs, addl = some a ∧ decodeAddl tbl a rest = .ok xs ∧ v = .obj vs (if xs.isEmpty then none else some xs)) := by
  cases hF : decodeFields tbl fields ms with
  | error e => rw [decode, hF] at h; cases h
  | ok p =>
    obtain ⟨vs, rest⟩ := p
    refine ⟨vs, rest, rfl, ?_⟩
    cases addl with
    | none => rw [decode_obj_noaddl hF] at h; cases h; exact .inl ⟨rfl, rfl⟩
    | some a =>
      cases hA : decodeAddl tbl a rest with
      | error e => rw [decode, hF] at h; simp only [hA] at h; cases h
      | ok xs => rw [decode_obj_addl hF hA] at h; cases h; exact .inr ⟨a, xs, rfl, hA, rfl⟩

theorem decode_allOf_eq_ok (hla : laterAddl members = false) :
    decode tbl (.allOf members) (.obj ms) = .ok v ↔ ∃ vs rest, decodeMembers tbl members ms = .ok (vs, rest) ∧ v = .obj vs none := by
  rw [decode]
  cases decodeMembers tbl members ms with
  | error e => exact ⟨nofun, fun ⟨_, _, h, _⟩ => nomatch h⟩
  | ok p =>
    simp only [hla, Bool.false_eq_true, if_false]
    exact ⟨fun h => ⟨p.1, p.2, rfl, (Except.ok.inj h).symm⟩, fun ⟨_, _, h, e⟩ => by cases h; rw [e]⟩

/-- what the property decoder leaves in the key map are exactly the members under undeclared names -/
theorem decodeFields_rest_eq (h : decodeFields tbl fields ms = .ok (vs, rest)) :
    rest = ms.filter (fun kv => !fields.any (·.1 == kv.1)) := by
  induction fields generalizing ms vs with
  | nil => rw [decodeFields] at h; cases h; exact (List.filter_eq_self.mpr fun _ _ => rfl).symm
  | cons f fs ih =>
    obtain ⟨name, req, s⟩ := f
    rw [extras_cons]
    obtain ⟨hl, -, vt, hr, -⟩ | ⟨j, v, vt, -, -, hr, -⟩ := decodeFields_cons_ok h
    · rw [eraseKey_of_absent (lookupAssoc_eq_none.mp hl)]; exact ih hr
    · exact ih hr

theorem decodeFields_length (h : decodeFields tbl fields ms = .ok (vs, rest)) : vs.length = fields.length := by
  induction fields generalizing ms vs with
  | nil => rw [decodeFields] at h; cases h; rfl
  | cons f fs ih =>
    obtain ⟨name, req, s⟩ := f
    obtain ⟨-, -, vt, hr, rfl⟩ | ⟨j, v, vt, -, -, hr, rfl⟩ := decodeFields_cons_ok h <;> exact congrArg Nat.succ (ih hr)

/-- The decoder works on a key map that shrinks: a decoded key is deleted (here), and each allOf member
    sees what the members before it left over (`agree_rest`). What is found under the names still to be
    decoded is not affected. -/
theorem agree_eraseKey {names : List String} {f : String → Option J} (hn : name ∉ names)
    (hag : ∀ k ∈ name :: names, lookupAssoc ms k = f k) :
    ∀ k ∈ names, lookupAssoc (eraseKey ms name) k = f k := fun k hk => by
  rw [lookupAssoc_eraseKey fun e : k = name => hn (e ▸ hk), hag k (List.mem_cons_of_mem _ hk)]

theorem agree_rest {names : List String} {f : String → Option J} (hnd : (fields.map (·.1) ++ names).Nodup)
    (hag : ∀ k ∈ fields.map (·.1) ++ names, lookupAssoc ms k = f k) (hF : decodeFields tbl fields ms = .ok (vs, rest)) :
    ∀ k ∈ names, lookupAssoc rest k = f k := fun k hk => by
  rw [decodeFields_rest_eq hF, lookupAssoc_extras fun hm => (List.nodup_append.mp hnd).2.2 k hm k hk rfl,
    hag k (List.mem_append_right _ hk)]

theorem conforms_obj_none :
    conforms (.obj fields none nl) (.obj ms) = true ↔
    (ms.map (·.1)).Nodup ∧ fieldsConform fields ms = true ∧ ms.filter (fun kv => !fields.any (·.1 == kv.1)) = [] := by
  simp only [conforms, Bool.and_eq_true, keysNodup_iff, List.isEmpty_iff, and_assoc]

theorem conforms_obj_some :
    conforms (.obj fields (some a) nl) (.obj ms) = true ↔
    (ms.map (·.1)).Nodup ∧ fieldsConform fields ms = true ∧
    conformsAll a ((ms.filter (fun kv => !fields.any (·.1 == kv.1))).map (·.2)) = true := by
  simp only [conforms, Bool.and_eq_true, keysNodup_iff, and_assoc]

theorem conforms_allOf (hla : laterAddl members = false) :
    conforms (.allOf members) (.obj ms) = true ↔
    (ms.map (·.1)).Nodup ∧ allMembers members ms = true ∧ ∀ k ∈ ms.map (·.1), k ∈ declaredNames members := by
  simp only [conforms, hla, Bool.and_eq_true, keysNodup_iff, and_assoc, Bool.false_eq_true, if_false,
    List.isEmpty_iff, List.filter_eq_nil_iff, Bool.not_eq_true', Bool.not_eq_false, List.contains_iff_mem,
    List.mem_map, forall_exists_index, and_imp]
  constructor
  · rintro ⟨h1, h2, h3⟩
    exact ⟨h1, h2, fun k kv hkv e => e ▸ h3 kv hkv⟩
  · rintro ⟨h1, h2, h3⟩
    exact ⟨h1, h2, fun kv hkv => h3 _ kv hkv rfl⟩

end

/-! ### allOf members that are objects without additionalProperties

  A member given by reference is ONE embedded struct value, an inline member's properties are the next
  fields of the composite's struct. `joinMember` puts the field values `fs` of a member in front of
  the values `vt` of the members after it in either way, so that both kinds of member go through the
  same statements. -/

section
def joinMember : Bool → List Val → List Val → List Val
  | true, fs, vt => .obj fs none :: vt
  | false, fs, vt => fs ++ vt

variable {tbl : LeafDec} {b nl : Bool} {fields : List (String × Bool × Schema)} {members ms : List (Bool × Schema)}
  {vs fs vt more : List Val} {doc rest left mm out : List (String × J)}

theorem toJMembers_join {mt : List (String × J)} (hF : toJFields fields fs = .ok (mm, []))
    (hM : toJMembers ms vt = .ok mt) :
    toJMembers ((b, .obj fields none nl) :: ms) (joinMember b fs vt) = .ok (mm ++ mt) := by
  cases b with
  | true => rw [joinMember, toJMembers, toJ_obj_nomap hF, hM]
  | false =>
    rw [joinMember, toJMembers, toJFields_append fields fs vt (toJFields_length_eq hF), hF]
    simp only [hM]

theorem toJMembers_cons_ok (h : toJMembers ((b, .obj fields none nl) :: ms) vs = .ok out) :
    ∃ fs vt mm more, vs = joinMember b fs vt ∧ toJFields fields fs = .ok (mm, []) ∧
      toJMembers ms vt = .ok more ∧ out = mm ++ more := by
  cases b with
  | false =>
    rw [toJMembers] at h
    split at h
    · cases h
    · next mm rest hF =>
      split at h
      · next more hM =>
        cases h
        obtain ⟨fs, rfl, -, hF'⟩ := toJFields_ok_split hF
        exact ⟨fs, rest, mm, more, rfl, hF', hM, rfl⟩
      · cases h
  | true =>
    cases vs with
    | nil => rw [toJMembers] at h; cases h
    | cons v vt =>
      rw [toJMembers] at h
      split at h
      · next mm more hv hM =>
        cases h
        obtain ⟨fs, ax, rfl⟩ := toJ_obj_shape hv
        obtain ⟨mm', hF, ⟨rfl, e⟩ | ⟨_, _, _, e, -⟩⟩ := toJ_obj_ok hv
        · cases e; exact ⟨fs, vt, mm, more, rfl, hF, hM, rfl⟩
        · cases e
      · cases h
      · cases h
      · cases h

theorem decodeMembers_join (hF : decodeFields tbl fields doc = .ok (fs, rest))
    (hM : decodeMembers tbl ms rest = .ok (more, left)) :
    decodeMembers tbl ((b, .obj fields none nl) :: ms) doc = .ok (joinMember b fs more, left) := by
  cases b <;> rw [decodeMembers, hF] <;> simp only [hM, joinMember]

theorem decodeMembers_cons_ok (h : decodeMembers tbl ((b, .obj fields none nl) :: ms) doc = .ok (vs, left)) :
    ∃ fs rest more, decodeFields tbl fields doc = .ok (fs, rest) ∧ decodeMembers tbl ms rest = .ok (more, left) ∧
      vs = joinMember b fs more := by
  cases hF : decodeFields tbl fields doc with
  | error e => cases b <;> (rw [decodeMembers, hF] at h; cases h)
  | ok p =>
    obtain ⟨fs, rest⟩ := p
    cases hM : decodeMembers tbl ms rest with
    | error e => cases b <;> (rw [decodeMembers, hF] at h; simp only [hM] at h; cases h)
    | ok q =>
      obtain ⟨more, left'⟩ := q
      rw [decodeMembers_join hF hM] at h
      cases h
      exact ⟨fs, rest, more, rfl, hM, rfl⟩

def PlainMembers (members : List (Bool × Schema)) : Prop :=
  ∀ m ∈ members, ∃ fields nl, m.2 = .obj fields none nl

theorem plainMembers_cons {s : Schema} :
    PlainMembers ((b, s) :: ms) ↔ (∃ fields nl, s = .obj fields none nl) ∧ PlainMembers ms :=
  List.forall_mem_cons

theorem laterAddl_of_plain (h : PlainMembers members) : laterAddl members = false := by
  induction members with
  | nil => rfl
  | cons m rest ih =>
    obtain ⟨b, s⟩ := m
    obtain ⟨⟨fields, nl, rfl⟩, h'⟩ := plainMembers_cons.mp h
    have := ih h'
    simpa [laterAddl] using this

theorem toJMembers_names_sublist (hp : PlainMembers members) (h : toJMembers members vs = .ok out) :
    (out.map (·.1)).Sublist (declaredNames members) := by
  induction members generalizing vs out with
  | nil =>
    cases vs with
    | nil => rw [toJMembers] at h; cases h; exact .slnil
    | cons _ _ => rw [toJMembers] at h; cases h
  | cons m rest ih =>
    obtain ⟨b, s⟩ := m
    obtain ⟨⟨fields, nl, rfl⟩, hp'⟩ := plainMembers_cons.mp hp
    obtain ⟨fs, vt, mm, more, -, hF, hM, rfl⟩ := toJMembers_cons_ok h
    rw [List.map_append, declaredNames]
    exact (toJFields_names_declared fields fs mm [] hF).append (ih hp' hM)

end

theorem isUnset_iff (v : Val) : isUnset v = true ↔ v = .unset := by
  cases v <;> simp [isUnset]

end Goag.JsonM
