import GoagModel.Basic
import GoagModel.Embed
import GoagModel.Spec
import GoagModel.Serve
import GoagModel.Ref
import GoagModel.Dir
import GoagModel.JsonModel
import GoagModel.Naming
import GoagModel.Resp
import GoagModel.RespHdr
import GoagModel.Alias
import GoagModel.JsonFragment
/-
  Line-protocol driver: one tab-separated request per line on stdin, one answer line on
  stdout.  The first field selects the model function.  Imports only executable model
  modules, among them `JsonFragment` with the hypotheses of the JSON tree theorems (`wf`, `rt`, `frag`,
  `leavesOk`, `shapeOk`: the driver reports which inputs of a run lie inside the proved fragments);
  no Mathlib, so that it links as a `lean_exe`.
-/
open Goag

def hexOfStr (s : Str) : String := toHex (String.ofList s)

def optHex : Option Str → String
  | none => "none"
  | some s => "v:" ++ hexOfStr s

structure State where
  doc : Option Spec.Doc := none
  api : Option Serve.ApiM := none
  cors : Bool := false
  leaf : Serve.LeafTable := []
  schemas : Option Lean.Json := none
  jleaf : JsonM.LeafDec := []
  docR : Option Resp.DocR := none

def unhexD (h : String) : String := (fromHex h).getD "?bad-hex?"

/-- `k=v1,v2;k2=...` with hex keys and values -/
def parseMulti (s : String) (hexKeys : Bool) : List (String × List String) :=
  if s.isEmpty then [] else
  (s.splitOn ";").filterMap (fun kv =>
    match kv.splitOn "=" with
    | [k, vs] => some (if hexKeys then unhexD k else k, if vs.isEmpty then [] else (vs.splitOn ",").map (fun v => unhexD (v.drop 1).toString))
    | _ => none)

/-! ### C10: response header values (`Goag.RespHdr`) -/

def hdrType? : String → Option RespHdr.HType
  | "int0" => some (.int 0)
  | "int32" => some (.int 32)
  | "int64" => some (.int 64)
  | "bool" => some .bool
  | "str" => some .str
  | _ => none

/-- a field line token `x<hex>`; string payloads stay hex (the model copies them verbatim) -/
def hdrLine (t : RespHdr.HType) (tok : String) : Str :=
  let h := (tok.drop 1).toString
  match t with
  | .str => h.toList
  | _ => (unhexD h).toList

def hdrLines (t : RespHdr.HType) (s : String) : List Str :=
  if s == "-" then [] else (s.splitOn ",").map (hdrLine t)

def hdrLeaf? (t : RespHdr.HType) (s : String) : Option RespHdr.Leaf :=
  match t with
  | .int _ => s.toInt?.map RespHdr.Leaf.int
  | .bool => if s == "true" then some (.bool true) else if s == "false" then some (.bool false) else none
  | .str => if s.startsWith "x" then some (.str (s.drop 1).toString.toList) else none

def hdrVal? (t : RespHdr.HType) (s : String) : Option RespHdr.HVal :=
  if s == "u" then some .unset
  else if s.startsWith "o:" then (hdrLeaf? t (s.drop 2).toString).map RespHdr.HVal.one
  else if s.startsWith "m:" then
    let r := (s.drop 2).toString
    if r.isEmpty then some (.many []) else ((r.splitOn ",").mapM (hdrLeaf? t)).map RespHdr.HVal.many
  else none

def renderLeaf : RespHdr.Leaf → String
  | .int v => toString v
  | .bool b => if b then "true" else "false"
  | .str s => "x" ++ String.ofList s

def renderHVal : Except RespHdr.RErr RespHdr.HVal → String
  | .ok .unset => "u"
  | .ok (.one l) => "o:" ++ renderLeaf l
  | .ok (.many ls) => "m:" ++ ",".intercalate (ls.map renderLeaf)
  | .error .required => "err:required"
  | .error .multiple => "err:multiple"
  | .error .parse => "err:parse"

def renderLines (t : RespHdr.HType) (ls : List Str) : String :=
  if ls.isEmpty then "-" else ",".intercalate (ls.map (fun l => match t with
    | .str => "x" ++ String.ofList l
    | _ => "x" ++ hexOfStr l))

def flag (s : String) : Bool := s == "1"

def refVerdict (st : State) (doc : Spec.Doc) (api : Serve.ApiM) (cors : Bool) (cfg : Serve.Cfg) (req : Serve.Req) : String :=
  if cfg.spec && req.path == api.base ++ "/" ++ api.specName then "spec|-|-|-" else
  match Ref.refRoute doc api.base (cors && cfg.cors) req.method req.path with
  | none => "nf|-|-|-"
  | some (.cors tpl) =>
      match doc.paths.find? (·.raw == tpl) with
      | some pi => s!"cors({",".intercalate (Ref.refCorsMethods pi)};{",".intercalate ((Ref.refCorsHeaders doc pi).toArray.qsort (· < ·)).toList})|-|-|-"
      | none => "cors(?)|-|-|-"
  | some (.op m tpl) =>
    match (doc.paths.find? (·.raw == tpl)).bind (fun pi => pi.ops.find? (·.method == m)) with
    | none => "op(?)|-|-|-"
    | some o =>
      let pp := if (o.parameters.any (·.loc == "path")) then
          match Ref.refPathParams st.leaf api.base tpl o req.path with
          | .ok vs => "ok Path[" ++ ",".intercalate vs ++ "]"
          | .error fs => "err{" ++ ",".intercalate (fs.map (fun (n, k) => toHex n ++ ":" ++ k)) ++ "}"
        else "ok"
      let a := match Ref.refAuth doc o cfg req with
        | .pub => "pub"
        | .ranOneOf acc => "ran{" ++ ",".intercalate (acc.map (fun (s, t) => toHex (s ++ ":" ++ t))) ++ "}"
        | .denied => "401"
      let qh := match Ref.refParams st.leaf o req with
        | .ok (qs, hs) => "ok Query[" ++ ",".intercalate qs ++ "] Headers[" ++ ",".intercalate hs ++ "]"
        | .error fs => "err{" ++ ",".intercalate fs ++ "}"
      -- headers read by the security schemes of the operation's own requirement (goag adds them
      -- to the parsed header parameters; a fault on them is not a fault of a declared parameter)
      let secNames := (Serve.effectiveReqs doc o).flatMap (fun alt => alt.filterMap (fun n =>
        match Serve.schemeOf doc n with
        | some .bearer => some (toHex "Authorization")
        | some (.apiKeyHeader h) => some (toHex h)
        | _ => none))
      s!"op({m} {tpl})|{a}|{pp}|{qh}|sec[{",".intercalate secNames}]"

/-- known-finding classes the input belongs to (decidable predicates over spec, config, request) -/
def kfClasses (doc : Spec.Doc) (api : Serve.ApiM) (cors : Bool) (cfg : Serve.Cfg) (req : Serve.Req) : List String :=
  if cfg.spec && req.path == api.base ++ "/" ++ api.specName then [] else
  match Ref.refRoute doc api.base (cors && cfg.cors) req.method req.path with
  | some (.cors tpl) =>
    match doc.paths.find? (·.raw == tpl) with
    | none => []
    | some pi => if pi.ops.any (fun o => (Serve.effectiveReqs doc o).any (fun a => a.length != 1)) then ["KF-C11-arity"] else []
  | some (.op m tpl) =>
    match (doc.paths.find? (·.raw == tpl)).bind (fun pi => pi.ops.find? (·.method == m)) with
    | none => []
    | some o =>
      let alts := Serve.effectiveReqs doc o
      (if alts.any (fun a => a.length != 1) then ["KF-C11-arity"] else []) ++
      (if alts.any (fun a => a.any (fun n => (Ref.schemeRef doc n).isNone)) then ["KF-C11-unsupported"] else [])
  | none => []

/-- C19 driver: initial pattern (5 owned files: '-' absent, 'S' stale; then 'F'/'-' for one
    foreign file), history "hca:tag,..." (h = hasComponents, c = client, a = api as 0/1) -/
def dirRun (init : String) (hist : String) : String :=
  let names : List Dir.Name := [.components, .handler, .router, .specFile, .client]
  let cs := init.toList
  let d0 : Dir.Dir := fun f =>
    match names.zip cs |>.find? (fun p => p.1 == f) with
    | some (_, 'S') => some (.other 0)
    | some _ => none
    | none => if f == Dir.Name.foreign 0 && cs.getD 5 '-' == 'F' then some (.other 1) else none
  let invs : List Dir.Inv := (hist.splitOn ",").filterMap (fun s =>
    match s.splitOn ":" with
    | [bits, tag] => match bits.toList with
      | [h, c, a] => some { hasComponents := h == '1', client := c == '1', api := a == '1', tag := tag.toNat! }
      | _ => none
    | _ => none)
  let d := Dir.run d0 invs
  let show1 (f : Dir.Name) : String := match d f with
    | none => "-"
    | some (.gen t _) => s!"G{t}"
    | some (.other 0) => "S"
    | some (.other _) => "F"
  " ".intercalate ((names ++ [Dir.Name.foreign 0]).map show1)

def handle (st : State) (fields : List String) : IO (State × String) := do
  match fields with
  | ["embed", id, h] =>
    match fromHex h with
    | none => pure (st, s!"{id}\tbad-input")
    | some s =>
      let e := Embed.encodeRaw s.toList
      pure (st, s!"{id}\t{hexOfStr e}\t{optHex (Embed.goEval e)}")
  | ["embedold", id, h] =>
    match fromHex h with
    | none => pure (st, s!"{id}\tbad-input")
    | some s =>
      let e := Embed.encodeOld s.toList
      pure (st, s!"{id}\t{hexOfStr e}\t{optHex (Embed.goEval e)}")
  | ["goeval", id, h] =>
    match fromHex h with
    | none => pure (st, s!"{id}\tbad-input")
    | some s => pure (st, s!"{id}\t{optHex (Embed.goEval s.toList)}")
  | ["api", pkg, path, baseHex, nameHex, corsF] =>
    let txt ← IO.FS.readFile path
    match Lean.Json.parse txt with
    | .error e => pure ({ st with doc := none, api := none }, s!"{pkg}\tunmodelled:json {e}")
    | .ok j =>
      match Spec.readDoc j with
      | .error e => pure ({ st with doc := none, api := none }, s!"{pkg}\tunmodelled:{e}")
      | .ok doc =>
        match Serve.plan doc (unhexD baseHex) (unhexD nameHex) (flag corsF) with
        | .error e => pure ({ st with doc := some doc, api := none }, s!"{pkg}\tplan-error:{e}")
        | .ok api => pure ({ st with doc := some doc, api := some api, cors := flag corsF, leaf := [] }, s!"{pkg}\tplan-ok base={api.base}")
  | ["jsonspec", pkg, path] =>
    let txt ← IO.FS.readFile path
    match Lean.Json.parse txt with
    | .error e => pure ({ st with schemas := none }, s!"{pkg}\tunmodelled:json {e}")
    | .ok j =>
      match (JsonM.jfield? j "components").bind (JsonM.jfield? · "schemas") with
      | some sc => pure ({ st with schemas := some sc, jleaf := [] }, s!"{pkg}\tschemas-ok")
      | none => pure ({ st with schemas := none }, s!"{pkg}\tunmodelled:no schemas")
  | ["jleaf", kind, canonHex, res] =>
    let r := match res.splitOn "|" with
      | [d, rc] => some (unhexD d, unhexD rc)
      | _ => none
    pure ({ st with jleaf := ((kind, unhexD canonHex), r) :: st.jleaf }, "jleaf-ok")
  | ["jsonenc", id, tname, valHex] =>
    match st.schemas with
    | none => pure (st, s!"{id}\tno-model")
    | some sc =>
      let res : Except String String := do
        let tj ← match JsonM.jfield? sc tname with | some t => pure t | none => throw "no such type"
        let s ← JsonM.readSchema sc 24 tj
        let vj ← Lean.Json.parse (unhexD valHex)
        let v ← JsonM.readVal vj
        let j ← JsonM.toJ s v
        let kf := if JsonM.hasEmbeddedAddl s then "KF-C06-embeddedAddl" else ""
        pure s!"canon={toHex j.canon}\tdump={JsonM.dumpVal s v}\tR:conforms={JsonM.conforms s j}\tK:{kf}\tT:wf={JsonM.wf s v},rt={JsonM.rt st.jleaf s v}"
      match res with
      | .ok r => pure (st, s!"{id}\t{r}")
      | .error e => pure (st, s!"{id}\tunmodelled:{e}")
  | ["jsondec", id, tname, _fault, docHex] =>
    match st.schemas with
    | none => pure (st, s!"{id}\tno-model")
    | some sc =>
      let res : Except String String := do
        let tj ← match JsonM.jfield? sc tname with | some t => pure t | none => throw "no such type"
        let s ← JsonM.readSchema sc 24 tj
        let dj ← Lean.Json.parse (unhexD docHex)
        let j ← JsonM.readJ dj
        let ok := JsonM.conforms s j
        if JsonM.hasEmbeddedAddl s then throw "K:KF-C06-embeddedAddl" else
        match JsonM.decode st.jleaf s j with
        | .error (.unmodelled m) => throw m
        | .error e => pure s!"dec={e.render}\tR:conforms={ok} expect={toHex (JsonM.prune st.jleaf s j).canon}\tT:frag={JsonM.frag s},leaves={JsonM.leavesOk st.jleaf s j},shape={JsonM.shapeOk s j}"
        | .ok v =>
          match JsonM.toJ s v with
          | .ok j2 => pure s!"dec=ok dump={JsonM.dumpVal s v} reenc={toHex j2.canon}\tR:conforms={ok} expect={toHex (JsonM.prune st.jleaf s j).canon} reencConforms={JsonM.conforms s j2}\tT:frag={JsonM.frag s},leaves={JsonM.leavesOk st.jleaf s j},shape={JsonM.shapeOk s j}"
          | .error e => throw s!"re-encode: {e}"
      match res with
      | .ok r => pure (st, s!"{id}\t{r}")
      | .error e => pure (st, s!"{id}\tunmodelled:{e}")
  | ["jsonconf", id, tname, docHex] =>
    match st.schemas with
    | none => pure (st, s!"{id}\tno-model")
    | some sc =>
      let res : Except String String := do
        let tj ← match JsonM.jfield? sc tname with | some t => pure t | none => throw "no such type"
        let s ← JsonM.readSchema sc 24 tj
        let dj ← Lean.Json.parse (unhexD docHex)
        let j ← JsonM.readJ dj
        pure s!"conforms={JsonM.conforms s j}"
      match res with
      | .ok r => pure (st, s!"{id}\t{r}")
      | .error e => pure (st, s!"{id}\tunmodelled:{e}")
  | ["aliascheck", id, h] =>
    -- h: hex of "name>target;name=;..." (alias / definition entries in goag's sorted key order)
    match fromHex h with
    | none => pure (st, s!"{id}\tbad-input")
    | some txt =>
      let m : Alias.CMap := (txt.splitOn ";").filterMap (fun e =>
        if e == "" then none else
        match e.splitOn ">" with
        | [n, t] => some (n, some t)
        | _ => match e.splitOn "=" with
          | [n, _] => some (n, none)
          | _ => none)
      let v := match Alias.check m with | .ok _ => "ok" | .error e => e
      pure (st, s!"{id}\t{v}")
  | ["names", id, h] =>
    match fromHex h with
    | none => pure (st, s!"{id}\tbad-input")
    | some s =>
      if !Naming.asciiName s.toList then pure (st, s!"{id}\tunmodelled") else
      let pub := Naming.publicFieldName s.toList
      pure (st, s!"{id}\t{hexOfStr pub}\t{hexOfStr (Naming.title s.toList)}\t{hexOfStr (Naming.privateFieldName pub)}")
  | ["respspec", pkg, path] =>
    let txt ← IO.FS.readFile path
    match Lean.Json.parse txt with
    | .error e => pure ({ st with docR := none }, s!"{pkg}\tunmodelled:json {e}")
    | .ok j =>
      let d := Resp.readDocR j
      match Resp.rejects d with
      | some why => pure ({ st with docR := some d }, s!"{pkg}\tresp-reject:{why}")
      | none => pure ({ st with docR := some d }, s!"{pkg}\tresp-ok")
  | ["respinfo", id, method, pathHex] =>
    match st.docR with
    | none => pure (st, s!"{id}\tno-model")
    | some d =>
      match d.ops.find? (fun o => o.method == method && o.path == unhexD pathHex) with
      | none => pure (st, s!"{id}\tno-such-op")
      | some o =>
        let impl := Resp.sortStrings (Resp.implementers d o)
        let docu := Resp.sortStrings (Resp.documentedTypes d o)
        let wr := Resp.sortStrings ((Resp.expectedWritten d o).map (fun w =>
          s!"{w.ctor}:{w.status},{w.ct},{"+".intercalate w.headers},{w.body}"))
        pure (st, s!"{id}\tiface={Resp.operationName o}Response\timpl={"+".intercalate impl}\tR:documented={"+".intercalate docu}\twritten={";".intercalate wr}")
  | ["clientstatus", id, method, pathHex, status] =>
    match st.docR with
    | none => pure (st, s!"{id}\tno-model")
    | some d =>
      match d.ops.find? (fun o => o.method == method && o.path == unhexD pathHex) with
      | none => pure (st, s!"{id}\tno-such-op")
      | some o =>
        let arm := match Resp.clientArm (Resp.numberedOf o) (Resp.hasDefault o) status.toNat! with
          | .documented n => s!"documented({n})"
          | .default => "default"
          | .notImplemented => "not-implemented"
        pure (st, s!"{id}\t{arm}")
  | ["hdrrt", id, ty, arr, req, lines, sent] =>
    match hdrType? ty with
    | none => pure (st, s!"{id}\tunmodelled")
    | some t =>
      let d : RespHdr.HDecl := { ty := t, array := flag arr, required := flag req }
      let rd := renderHVal (RespHdr.readLines d (hdrLines t lines))
      match hdrVal? t sent with
      | none => pure (st, s!"{id}\tbad-value\t{rd}")
      | some v => pure (st, s!"{id}\t{renderLines t (RespHdr.writeLines v)}\t{rd}")
  | ["dirrun", id, init, hist] => pure (st, s!"{id}\t{dirRun init hist}")
  | ["leaf", tag, lexHex, res] =>
    pure ({ st with leaf := ((tag, unhexD lexHex), if res == "none" then none else some res) :: st.leaf }, "leaf-ok")
  | ["serve", id, method, pathHex, mws, nf, spec, cors, parse, auth, query, headers] =>
    match st.doc, st.api with
    | some doc, some api =>
      let req : Serve.Req := { method := method, path := unhexD pathHex, query := parseMulti query true, headers := parseMulti headers true }
      let cfg : Serve.Cfg := { mws := mws.toNat!, nf := flag nf, spec := flag spec, cors := flag cors, parse := flag parse, auth := parseMulti auth false }
      let tr := Serve.renderTrace (Serve.serve st.leaf api cfg req)
      pure (st, s!"{id}\t{tr}\tR:{refVerdict st doc api st.cors cfg req}\tK:{",".intercalate (kfClasses doc api st.cors cfg req)}")
    | _, _ => pure (st, s!"{id}\tno-model")
  | _ => pure (st, "bad-op")

partial def loop (h : IO.FS.Stream) (out : IO.FS.Stream) (st : State) : IO Unit := do
  let line ← h.getLine
  if line.isEmpty then return ()
  let l := (line.dropEndWhile (fun c => c == '\n' || c == '\r')).toString
  let (st', ans) ← handle st (l.splitOn "\t")
  out.putStrLn ans
  loop h out st'

def main : IO Unit := do
  let out ← IO.getStdout
  loop (← IO.getStdin) out {}
  out.flush
