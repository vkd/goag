import GoagModel.Basic
import GoagModel.Embed
import GoagModel.Prim
import GoagModel.Spec
import GoagModel.Router
import GoagModel.RouterLemmas
import GoagModel.Serve
import GoagModel.ServeLemmas
import GoagModel.Ref
import GoagModel.AuthLemmas
import GoagModel.Dir
import GoagModel.C12Known
import GoagModel.JsonRead
import GoagModel.JsonModel
import GoagModel.JsonWriter
import GoagModel.JsonFragment
import GoagModel.Naming
import GoagModel.Resp
import GoagModel.Props.C01
import GoagModel.Props.C02
import GoagModel.Props.C02w
import GoagModel.Props.C03
import GoagModel.Props.C04
import GoagModel.Props.C05
import GoagModel.JsonLemmas
import GoagModel.Props.C06
import GoagModel.Props.C06b
import GoagModel.Props.C06c
import GoagModel.Props.C07
import GoagModel.Props.C07b
import GoagModel.Props.C08
import GoagModel.Props.C08b
import GoagModel.Props.C09
import GoagModel.Props.C09b
import GoagModel.Props.C10
import GoagModel.RespHdr
import GoagModel.Props.C10b
import GoagModel.Props.C11
import GoagModel.Props.C12
import GoagModel.Props.C13
import GoagModel.Props.C14
import GoagModel.Props.C14b
import GoagModel.Props.C15
import GoagModel.Props.C16
import GoagModel.Props.C17
import GoagModel.Props.C18
import GoagModel.Props.C19
import GoagModel.Sched
import GoagModel.C20Known
import GoagModel.Props.C20
import GoagModel.Alias
